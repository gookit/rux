import RuxModel.Model.Rest
import RuxModel.Lemmas.Reg
/-
  Lemmas for C16: the routes `Resource` registers are the documented rows, and among them only the create route owns the
  static entry `GET G/create`.
-/
namespace Rux.Reg

/-- the suffixes of the documented table, per action -/
def Action.docPath : Action → String
  | .aIndex => "" | .aStore => "" | .aCreate => "/create" | .aEdit => "/{id}/edit"
  | .aShow => "/{id}" | .aUpdate => "/{id}" | .aDelete => "/{id}"

theorem docTable_eq : docTable = Action.all.map fun a => (a, a.methods, a.docPath, a.lname) := rfl

def rowOf (G res : Bytes) (a : Action) : Triple :=
  (a.methods.map ascii, G ++ ascii a.docPath, res ++ ascii "_" ++ ascii a.lname)

theorem docRows_eq (G res : Bytes) (S : List Action) :
    docRows G res S = (Action.all.filter fun a => decide (a ∈ S)).map (rowOf G res) := by
  simp only [docRows, docTable_eq, List.filter_map, List.map_map]
  rfl

/-- the definition `Resource` hands to `AddNamed`/`Use` for one action -/
def restDef (rd : ResDef) (a : Action) : RouteDef :=
  { id := rd.rid + a.idx, main := rd.rid + a.idx
    name := rd.resName ++ ascii "_" ++ ascii a.lname
    methods := a.methods.map ascii
    path := ascii a.relPath
    pre := []
    post := match rd.uses.lookup a with
      | some hs => [hs]
      | none => [] }

theorem restRoutes_eq (rd : ResDef) :
    restRoutes rd = (rd.order.filter fun a => decide (a ∈ rd.impl)).map (restDef rd) := rfl

theorem storedPath_rest {cfg : Cfg} {G : Bytes} (hp : RestPaths cfg G) : (a : Action) →
    storedPath cfg G (ascii a.relPath) = G ++ ascii a.docPath
  | .aIndex | .aStore => hp.root.trans (List.append_nil G).symm
  | .aCreate => hp.create
  | .aEdit => hp.edit
  | .aShow | .aUpdate | .aDelete => hp.item

theorem triple_mkRoute {cfg : Cfg} (sc : Scope) (hp : RestPaths cfg sc.pfx) (rd : ResDef) (a : Action) :
    (mkRoute cfg sc (restDef rd a)).triple = rowOf sc.pfx rd.resName a := by
  simp only [mkRoute, Route.triple, restDef, rowOf, storedPath_rest hp a]

theorem resource_routes {cfg : Cfg} {st st' : RS} {rd : ResDef} {mws : List H}
    (h : exec cfg st (.resource rd mws) = .ok st') :
    st'.routes = st.routes ++
      (rd.order.filter fun a => decide (a ∈ rd.impl)).map
        fun a => mkRoute cfg (enterScope cfg st.toScope (rd.base ++ rd.resName) mws) (restDef rd a) := by
  have := exec_den _ h
  subst this
  simp [RS.plus, den, restRoutes_eq]

theorem isFixed_append (a b : Bytes) : isFixed (a ++ b) = (isFixed a && isFixed b) := by
  simp only [isFixed, List.contains_append, Bool.not_or]
  ac_rfl

theorem beq_append_left (G x y : Bytes) : (G ++ x == G ++ y) = (x == y) := by
  rw [Bool.eq_iff_iff]; simp

theorem beq_append_ne_self (G x : Bytes) (hx : x ≠ []) : (G ++ x == G) = false := by
  simpa using hx

/-- among the routes of one resource under a variable-free prefix, the static entry for
    `GET G/create` is the create route alone -/
theorem static_create {cfg : Cfg} (sc : Scope) (hp : RestPaths cfg sc.pfx) (hG : isFixed sc.pfx = true)
    (rd : ResDef) (a : Action) :
    (isFixed (mkRoute cfg sc (restDef rd a)).path && (mkRoute cfg sc (restDef rd a)).methods.contains (ascii "GET") &&
      (mkRoute cfg sc (restDef rd a)).path == sc.pfx ++ ascii "/create") = decide (a = .aCreate) := by
  simp only [mkRoute, restDef, storedPath_rest hp a, isFixed_append, hG, Bool.true_and, beq_append_left]
  -- what is left speaks of the seven rows of the action table alone
  cases a
  all_goals
    dsimp only [Action.docPath, Action.methods, List.map]
    repeat rw [ascii_ofList]
    decide

/-- whatever the table held before, the static entry registered LAST for `GET G/create` is the create route of this call -/
theorem resource_serves_create {cfg : Cfg} {st st' : RS} {rd : ResDef} {mws : List H}
    (hord : rd.order.Perm Action.all) (hc : Action.aCreate ∈ rd.impl)
    (hp : RestPaths cfg (st.pfx ++ cfg.fmt (rd.base ++ rd.resName)))
    (hG : isFixed (st.pfx ++ cfg.fmt (rd.base ++ rd.resName)) = true)
    (h : exec cfg st (.resource rd mws) = .ok st') :
    lookup st'.routes (ascii "GET") (st.pfx ++ cfg.fmt (rd.base ++ rd.resName) ++ ascii "/create") =
      some (mkRoute cfg (enterScope cfg st.toScope (rd.base ++ rd.resName) mws) (restDef rd .aCreate)) := by
  rw [resource_routes h]
  unfold lookup
  -- the old routes stay in front (`getLast?` will not see them); on the new ones the filter is `static_create`'s `a = .aCreate`
  rw [List.filter_append, List.filter_map,
    show _ ∘ _ = _ from funext (static_create (enterScope cfg st.toScope (rd.base ++ rd.resName) mws) hp hG rd)]
  -- as many copies of `aCreate` as `rd.order`, hence `Action.all`, has
  rw [List.filter_eq, List.count_filter (by simpa using hc), hord.count_eq,
    show List.count Action.aCreate Action.all = 1 from rfl, List.replicate_one, List.map_singleton, List.getLast?_concat]

theorem restPaths_clean (limit : Nat) (G : Bytes) (hG : CleanPath G) : RestPaths (cleanCfg limit) G := by
  have sp {p q : Bytes} (e : cleanFmt (cleanSfmt p) = q) : storedPath (cleanCfg limit) G p = cleanFmt (G ++ q) := by
    simp only [storedPath, cleanCfg, e, if_pos (cleanPath_last hG).1]
  have rel {p q : Bytes} (e : cleanFmt (cleanSfmt p) = q) (hq : CleanPath q) :
      storedPath (cleanCfg limit) G p = G ++ q :=
    (sp e).trans (cleanFmt_fix _ (cleanPath_cat G q hG hq))
  constructor <;> repeat rw [ascii_ofList]
  · rw [sp (q := [47]) rfl, cleanFmt_eq, Bytes.trimRight_append_self, Bytes.trimRight_id (cleanPath_last hG).2, cleanSfmt_fix G hG]
  · exact rel rfl (by decide)
  · exact rel rfl (by decide)
  · exact rel rfl (by decide)

end Rux.Reg
