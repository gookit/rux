import RuxModel.Go.Bytes
/-
  Lemmas about the trimming functions of Go/Bytes.lean.

  `strip f s` is `dropSpaces f s.length s`; its lemmas need only `HeadFn` of the "head length" function `f` (how
  many leading bytes form one rune of the cut set).  `spaceAtHead`, `spaceAtHeadRev`, `spaceOrByteAtHeadRev c` have
  it because each reads a prefix code (`Reads`); what a byte before or behind a string does to them follows from
  where it occurs in the words of the code.
-/
namespace Rux
namespace Bytes

/-! ### generic: `strip` -/

def strip (f : Bytes → Nat) (s : Bytes) : Bytes := dropSpaces f s.length s

structure HeadFn (f : Bytes → Nat) : Prop where
  le : ∀ s, f s ≤ s.length
  stable : ∀ s r, 0 < f s → f (s ++ r) = f s

theorem strip_nil {f : Bytes → Nat} : strip f [] = [] := rfl

theorem strip_zero {f : Bytes → Nat} {s : Bytes} (h : f s = 0) : strip f s = s := by
  unfold strip
  cases hs : s.length with
  | zero => rfl
  | succ m => rw [dropSpaces, h]

theorem length_drop_succ_le {s : Bytes} {m : Nat} (h : s.length ≤ m + 1) (k : Nat) : (s.drop (k + 1)).length ≤ m := by
  rw [List.length_drop]; omega

section
variable {f : Bytes → Nat} (hf : HeadFn f)
include hf

theorem dropSpaces_fuel {a b : Nat} (s : Bytes) (ha : s.length ≤ a) (hb : s.length ≤ b) :
    dropSpaces f a s = dropSpaces f b s := by
  fun_induction dropSpaces f a s generalizing b with
  | case1 s =>
    obtain rfl := List.eq_nil_of_length_eq_zero (Nat.le_zero.mp ha)
    cases b with
    | zero => rfl
    | succ b => rw [dropSpaces, Nat.le_zero.mp (hf.le [])]
  | case2 a s h0 =>
    cases b with
    | zero => rfl
    | succ b => rw [dropSpaces, h0]
  | case3 a s n hn ih =>
    cases b with
    | zero => exact absurd (hf.le s) (by rw [hn, Nat.le_zero.mp hb]; exact Nat.not_succ_le_zero n)
    | succ b =>
      rw [dropSpaces, hn]
      exact ih (length_drop_succ_le ha n) (length_drop_succ_le hb n)

theorem strip_pos {s : Bytes} (h : 0 < f s) : strip f s = strip f (s.drop (f s)) := by
  unfold strip
  obtain ⟨m, hm⟩ := Nat.exists_eq_succ_of_ne_zero (Nat.ne_of_gt (Nat.lt_of_lt_of_le h (hf.le s)))
  obtain ⟨k, hk⟩ := Nat.exists_eq_succ_of_ne_zero (Nat.ne_of_gt h)
  rw [hm, dropSpaces, hk]
  exact dropSpaces_fuel hf _ (length_drop_succ_le (Nat.le_of_eq hm) k) (Nat.le_refl _)

theorem strip_induct {motive : Bytes → Prop} (h0 : ∀ s, f s = 0 → motive s)
    (hstep : ∀ s, 0 < f s → motive (s.drop (f s)) → motive s) : ∀ s, motive s := by
  intro s
  generalize hn : s.length = n
  induction n using Nat.strongRecOn generalizing s with
  | _ n ih =>
    by_cases h : f s = 0
    · exact h0 s h
    · have hpos : 0 < f s := Nat.pos_of_ne_zero h
      refine hstep s hpos (ih _ ?_ _ rfl)
      rw [List.length_drop, ← hn]
      exact Nat.sub_lt (Nat.lt_of_lt_of_le hpos (hf.le s)) hpos

theorem strip_fix (s : Bytes) : f (strip f s) = 0 := by
  induction s using strip_induct hf with
  | h0 s h => rw [strip_zero h]; exact h
  | hstep s h ih => rw [strip_pos hf h]; exact ih

theorem strip_suffix (s : Bytes) : strip f s <:+ s := by
  induction s using strip_induct hf with
  | h0 s h => rw [strip_zero h]; exact List.suffix_refl s
  | hstep s h ih => rw [strip_pos hf h]; exact ih.trans (List.drop_suffix _ s)

theorem strip_append (s r : Bytes) : strip f (s ++ r) = strip f (strip f s ++ r) := by
  induction s using strip_induct hf with
  | h0 s h => rw [strip_zero h]
  | hstep s h ih =>
    have hs := hf.stable s r h
    have hle := hf.le s
    rw [strip_pos hf (by rw [hs]; exact h), hs, strip_pos hf h (s := s)]
    rw [List.drop_append_of_le_length hle]
    exact ih

theorem strip_append_zero {s r : Bytes} (h : f (strip f s ++ r) = 0) : strip f (s ++ r) = strip f s ++ r := by
  rw [strip_append hf, strip_zero h]

theorem head_zero_of_prefix {s t : Bytes} (hp : s <+: t) (h : f t = 0) : f s = 0 := by
  obtain ⟨r, rfl⟩ := hp
  refine Decidable.by_contra fun h0 => h0 ?_
  rw [← hf.stable s r (Nat.pos_of_ne_zero h0), h]

end

theorem strip_idem {f : Bytes → Nat} (hf : HeadFn f) (s : Bytes) : strip f (strip f s) = strip f s :=
  strip_zero (strip_fix hf s)

/-! ### trimming on the right -/

def rtrim (f : Bytes → Nat) (s : Bytes) : Bytes := (strip f s.reverse).reverse

theorem trimLeftSpace_eq (s : Bytes) : trimLeftSpace s = strip spaceAtHead s := rfl

theorem trimRightSpace_eq (s : Bytes) : trimRightSpace s = rtrim spaceAtHeadRev s := by
  unfold trimRightSpace rtrim strip; rw [List.length_reverse]

theorem trimRightSpaceOrByte_eq (c : Nat) (s : Bytes) :
    trimRightSpaceOrByte c s = rtrim (spaceOrByteAtHeadRev c) s := by
  unfold trimRightSpaceOrByte rtrim strip; rw [List.length_reverse]

theorem trimSpace_eq (s : Bytes) : trimSpace s = rtrim spaceAtHeadRev (strip spaceAtHead s) := by
  unfold trimSpace; rw [trimRightSpace_eq, trimLeftSpace_eq]

theorem rtrim_fix {f : Bytes → Nat} (hf : HeadFn f) (s : Bytes) : f (rtrim f s).reverse = 0 := by
  unfold rtrim; rw [List.reverse_reverse]; exact strip_fix hf _

theorem rtrim_zero {f : Bytes → Nat} {s : Bytes} (h : f s.reverse = 0) : rtrim f s = s := by
  unfold rtrim; rw [strip_zero h, List.reverse_reverse]

theorem rtrim_prefix {f : Bytes → Nat} (hf : HeadFn f) (s : Bytes) : rtrim f s <+: s := by
  simpa [rtrim] using List.reverse_prefix.2 (strip_suffix hf s.reverse)

/-! ### head functions that read a prefix code -/

/-- `f` reads the prefix code `W`: `f s` is the length of the word of `W` at the head of `s`, or 0 if there is none -/
structure Reads (W : Bytes → Prop) (f : Bytes → Nat) : Prop where
  ne_nil : ¬ W []
  word : ∀ {w}, W w → ∀ s, f (w ++ s) = w.length
  pos : ∀ {s}, 0 < f s → ∃ w t, W w ∧ s = w ++ t

section
variable {W : Bytes → Prop} {f : Bytes → Nat} (hf : Reads W f)
include hf

theorem Reads.headFn : HeadFn f where
  le s := by
    rcases Nat.eq_zero_or_pos (f s) with h | h
    · rw [h]; exact Nat.zero_le _
    · obtain ⟨w, t, hw, rfl⟩ := hf.pos h
      rw [hf.word hw, List.length_append]; exact Nat.le_add_right _ _
  stable s r h := by
    obtain ⟨w, t, hw, rfl⟩ := hf.pos h
    rw [List.append_assoc, hf.word hw, hf.word hw]

theorem Reads.strip_word {w : Bytes} (hw : W w) (s : Bytes) : strip f (w ++ s) = strip f s := by
  have hpos : 0 < w.length := List.length_pos_iff.mpr fun h => hf.ne_nil (h ▸ hw)
  rw [strip_pos hf.headFn (by rw [hf.word hw]; exact hpos), hf.word hw, List.drop_left]

theorem Reads.rtrim_word {w : Bytes} (hw : W w.reverse) (s : Bytes) : rtrim f (s ++ w) = rtrim f s := by
  unfold rtrim
  rw [List.reverse_append, hf.strip_word hw]

theorem Reads.strip_mono {W' : Bytes → Prop} {g : Bytes → Nat} (hg : Reads W' g) (h : ∀ w, W w → W' w)
    (s : Bytes) : strip g (strip f s) = strip g s := by
  induction s using strip_induct hf.headFn with
  | h0 s h0 => rw [strip_zero h0]
  | hstep s hs ih =>
    obtain ⟨w, t, hw, rfl⟩ := hf.pos hs
    rw [hf.word hw, List.drop_left] at ih
    rw [hf.strip_word hw, hg.strip_word (h w hw), ih]

theorem Reads.not_prefix {s w : Bytes} (h0 : f s = 0) (hw : W w) : ¬ w <+: s := by
  rintro ⟨t, rfl⟩
  rw [hf.word hw] at h0
  exact hf.ne_nil (List.eq_nil_of_length_eq_zero h0 ▸ hw)

theorem Reads.inert {c : Nat} (hc : ∀ w, W w → w.head? ≠ some c) (s : Bytes) : f (c :: s) = 0 := by
  refine Nat.eq_zero_of_not_pos fun h => ?_
  obtain ⟨w, t, hw, e⟩ := hf.pos h
  cases w with
  | nil => exact hf.ne_nil hw
  | cons b w => cases e; exact hc _ hw rfl

theorem Reads.after {c : Nat} (hc : ∀ w, W w → c ∉ w.tail) {p : Bytes} (r : Bytes) (h0 : f p = 0) (hp : p ≠ []) :
    f (p ++ c :: r) = 0 := by
  refine Nat.eq_zero_of_not_pos fun h => ?_
  obtain ⟨w, t, hw, e⟩ := hf.pos h
  -- the word read at the head runs over the seam (then `c` is in its tail) or ends inside `p` (a prefix of `p`)
  rcases List.append_eq_append_iff.mp e with ⟨a, rfl, ha⟩ | ⟨a, rfl, _⟩
  · cases a with
    | nil => exact hf.not_prefix h0 hw ⟨[], by simp⟩
    | cons x a =>
      cases ha
      cases p with
      | nil => exact hp rfl
      | cons b p => exact hc _ hw (by simp)
  · exact hf.not_prefix h0 hw ⟨a, rfl⟩

end

/-! ### the matcher behind `spaceAtHead` and `spaceAtHeadRev` -/

/-- `p1`, `p2`, `p3` recognise the words of one, two and three bytes -/
def wordAtHead (p1 : Nat → Bool) (p2 : Nat → Nat → Bool) (p3 : Nat → Nat → Nat → Bool) : Bytes → Nat
  | [] => 0
  | [a] => if p1 a then 1 else 0
  | [a, b] => if p1 a then 1 else if p2 a b then 2 else 0
  | a :: b :: c :: _ => if p1 a then 1 else if p2 a b then 2 else if p3 a b c then 3 else 0

def isWord (p1 : Nat → Bool) (p2 : Nat → Nat → Bool) (p3 : Nat → Nat → Nat → Bool) : Bytes → Bool
  | [a] => p1 a
  | [a, b] => p2 a b
  | [a, b, c] => p3 a b c
  | _ => false

section
variable {p1 : Nat → Bool} {p2 : Nat → Nat → Bool} {p3 : Nat → Nat → Nat → Bool}

theorem isWord_reverse {w : Bytes} (h : isWord p1 p2 p3 w = true) :
    isWord p1 (fun a b => p2 b a) (fun a b c => p3 c b a) w.reverse = true := by
  revert h
  fun_cases isWord p1 p2 p3 w
  case case4 => exact nofun
  all_goals exact id

/-- the hypotheses say that the code is prefix-free -/
theorem reads_word (h2 : ∀ {a b}, p2 a b = true → p1 a = false)
    (h3 : ∀ {a b c}, p3 a b c = true → p1 a = false ∧ p2 a b = false) :
    Reads (isWord p1 p2 p3 · = true) (wordAtHead p1 p2 p3) where
  ne_nil := nofun
  word {w} hw s := by
    revert hw
    fun_cases isWord p1 p2 p3 w
    case case1 a =>
      intro hw
      rcases s with _ | ⟨_, _ | _⟩ <;> exact if_pos hw
    case case2 a b =>
      intro hw
      cases s <;> simp [wordAtHead, h2 hw, show p2 a b = true from hw]
    case case3 a b c =>
      intro hw
      simp [wordAtHead, h3 hw, show p3 a b c = true from hw]
    case case4 => exact nofun
  pos {s} := by
    fun_cases wordAtHead p1 p2 p3 s
    case case2 a h => exact fun _ => ⟨[a], [], h, rfl⟩
    case case4 a b h => exact fun _ => ⟨[a], [b], h, rfl⟩
    case case5 a b _ h => exact fun _ => ⟨[a, b], [], h, rfl⟩
    case case7 a b c t h => exact fun _ => ⟨[a], b :: c :: t, h, rfl⟩
    case case8 a b c t _ h => exact fun _ => ⟨[a, b], c :: t, h, rfl⟩
    case case9 a b c t _ _ h => exact fun _ => ⟨[a, b, c], t, h, rfl⟩
    all_goals exact nofun

end

/-! ### the bytes of white-space runes -/

theorem isAsciiSpace_lt {b : Nat} (h : isAsciiSpace b = true) : b < 0x80 := by
  simp [isAsciiSpace] at h; omega

theorem isSp2_bytes {a b : Nat} (h : isSp2 a b = true) : a = 0xC2 ∧ 0x80 ≤ b ∧ b < 0xC0 := by
  simp [isSp2] at h
  obtain ⟨rfl, rfl | rfl⟩ := h <;> decide

theorem isSp3_bytes {a b c : Nat} (h : isSp3 a b c = true) :
    0xE1 ≤ a ∧ (0x80 ≤ b ∧ b < 0xC0) ∧ 0x80 ≤ c ∧ c < 0xC0 := by
  simp [isSp3] at h; omega

theorem not_ascii_of_ge {b : Nat} (h : 0x80 ≤ b) : isAsciiSpace b = false :=
  Bool.eq_false_iff.2 fun hx => Nat.not_le.2 (isAsciiSpace_lt hx) h

theorem not_sp2_of_ne {a b : Nat} (h : a ≠ 0xC2) : isSp2 a b = false :=
  Bool.eq_false_iff.2 fun hx => h (isSp2_bytes hx).1

/-- an ASCII byte that is not white space: never part of a white-space rune -/
def Inert (c : Nat) : Prop := c < 0x80 ∧ isAsciiSpace c = false

section
variable {w : Bytes} (hw : isWsRune w = true)
include hw

/-- a white-space rune is one ASCII byte, or a lead byte followed by continuation bytes -/
theorem wsRune_bytes : ∃ a t, w = a :: t ∧
    ((t = [] ∧ isAsciiSpace a = true) ∨ (0xC0 ≤ a ∧ ∀ c ∈ t, 0x80 ≤ c ∧ c < 0xC0)) := by
  revert hw
  fun_cases isWsRune w
  case case1 a => exact fun hw => ⟨a, [], rfl, .inl ⟨rfl, hw⟩⟩
  case case2 a b =>
    intro hw
    obtain ⟨rfl, hb⟩ := isSp2_bytes hw
    exact ⟨_, [b], rfl, .inr ⟨by decide, List.forall_mem_singleton.2 hb⟩⟩
  case case3 a b c =>
    intro hw
    obtain ⟨ha, hb, hc⟩ := isSp3_bytes hw
    exact ⟨a, [b, c], rfl, .inr ⟨Nat.le_trans (by decide) ha,
      List.forall_mem_cons.2 ⟨hb, List.forall_mem_singleton.2 hc⟩⟩⟩
  case case4 => exact nofun

theorem wsRune_inert {c : Nat} (hc : Inert c) : c ∉ w := by
  obtain ⟨a, t, rfl, ⟨rfl, ha⟩ | ⟨ha, ht⟩⟩ := wsRune_bytes hw
  · intro h; cases List.mem_singleton.1 h; exact absurd ha (by simp [hc.2])
  · intro h
    rcases List.mem_cons.1 h with rfl | h
    · exact Nat.not_le.2 hc.1 (Nat.le_trans (by decide) ha)
    · exact Nat.not_le.2 hc.1 (ht c h).1

end

/-! ### the three head functions -/

theorem reads_space : Reads (isWsRune · = true) spaceAtHead := by
  refine reads_word (fun h => ?_) (fun h => ?_)
  · exact not_ascii_of_ge ((isSp2_bytes h).1 ▸ by decide)
  · have := (isSp3_bytes h).1
    exact ⟨not_ascii_of_ge (Nat.le_trans (by decide) this),
      not_sp2_of_ne (by omega)⟩

theorem reads_spaceRev : Reads (fun w => isWsRune w.reverse = true) spaceAtHeadRev := by
  have e : (fun w => isWsRune w.reverse = true) =
      (isWord isAsciiSpace (fun a b => isSp2 b a) (fun a b c => isSp3 c b a) · = true) := by
    funext w
    exact propext ⟨fun h => by simpa using isWord_reverse h, isWord_reverse⟩
  rw [e]
  -- read backwards, the byte in front is a continuation byte
  refine reads_word (fun h => ?_) (fun h => ?_)
  · exact not_ascii_of_ge (isSp2_bytes h).2.1
  · have := isSp3_bytes h
    exact ⟨not_ascii_of_ge this.2.2.1, not_sp2_of_ne (by omega)⟩

theorem headFn_space : HeadFn spaceAtHead := reads_space.headFn
theorem headFn_spaceRev : HeadFn spaceAtHeadRev := reads_spaceRev.headFn

theorem spaceAtHead_inert {c : Nat} (hc : Inert c) (s : Bytes) : spaceAtHead (c :: s) = 0 :=
  reads_space.inert (fun _ hw h => wsRune_inert hw hc (List.mem_of_mem_head? h)) s

theorem spaceAtHeadRev_inert {c : Nat} (hc : Inert c) (s : Bytes) : spaceAtHeadRev (c :: s) = 0 :=
  reads_spaceRev.inert (fun _ hw h => wsRune_inert hw hc (List.mem_reverse.2 (List.mem_of_mem_head? h))) s

/-- appending a byte that is no UTF-8 continuation byte cannot complete a white-space rune -/
theorem spaceAtHead_after {p : Bytes} {c : Nat} (r : Bytes) (h0 : spaceAtHead p = 0) (hp : p ≠ [])
    (hc : c < 0x80 ∨ 0xC0 ≤ c) : spaceAtHead (p ++ c :: r) = 0 := by
  refine reads_space.after (fun w hw h => ?_) r h0 hp
  obtain ⟨a, t, rfl, ⟨rfl, _⟩ | ⟨_, ht⟩⟩ := wsRune_bytes hw
  · cases h
  · have := ht c h
    omega

theorem reads_spaceOrByte {c : Nat} (hc : Inert c) :
    Reads (fun w => w = [c] ∨ isWsRune w.reverse = true) (spaceOrByteAtHeadRev c) where
  ne_nil := by rintro (h | h) <;> cases h
  word {w} hw s := by
    rcases hw with rfl | hw
    · simp [spaceOrByteAtHeadRev]
    · cases w with
      | nil => cases hw
      | cons b t =>
        have hb : b ≠ c := fun h => wsRune_inert hw hc (by simp [h])
        simpa [spaceOrByteAtHeadRev, hb] using reads_spaceRev.word hw s
  pos {s} := by
    fun_cases spaceOrByteAtHeadRev c s
    case case1 => exact nofun
    case case2 t => exact fun _ => ⟨[c], t, .inl rfl, rfl⟩
    case case3 =>
      intro h
      obtain ⟨w, u, hw, e⟩ := reads_spaceRev.pos h
      exact ⟨w, u, .inr hw, e⟩

end Bytes
end Rux
