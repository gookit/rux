import RuxModel.Model.Conc
import RuxModel.Lemmas.Cache
/-
  Lemmas for C03.  `Sys` is the abstract system of requests that the schedule lemma (`C03_schedule_independent`) is about
  (DESIGN-prototypes.md §5, generalised by a normalisation of the local state and a local invariant: what the cache
  answered may differ between schedules until the request's next step); the rux step function is one (`ruxSys`, with
  `Coh` and `LInv`, by `step_spec` over the `_pc`/`_not_got` lemmas: what the parts of a step do to the pc).
  `stepN` and the last section: for Props/C03.lean.
-/
namespace Rux.Conc

/-- A system of requests sharing a state `C`; each request has a local state `L`. -/
structure Sys (C L : Type) where
  step : C → L → C × L           -- one atomic step of one request
  norm : L → L                   -- the part of the local state that matters
  stepPure : L → L               -- what that step does when the request is alone
  Coh : C → Prop                 -- invariant of the shared state
  LInv : L → Prop                -- invariant of a local state
  coh_step : ∀ c l, Coh c → LInv l → Coh (step c l).1
  linv_step : ∀ c l, Coh c → LInv l → LInv (step c l).2
  indep : ∀ c l, Coh c → LInv l → norm (step c l).2 = stepPure (norm l)

namespace Sys
variable {C L : Type} (S : Sys C L)

def run (n : Nat) : List (Fin n) → C × (Fin n → L) → C × (Fin n → L)
  | [], st => st
  | i :: rest, (c, ls) =>
    let r := S.step c (ls i)
    run n rest (r.1, fun j => if j = i then r.2 else ls j)

end Sys

/-- what a request remembers of a cache hit is what the pure tables say for that key -/
def LInv (cfg : Cfg) (l : Local) : Prop :=
  ∀ st v, l.pc = .got st (some v) → cfg.dyn (keyOf l st) = some v

def Coh (cfg : Cfg) (s0 : Static) (sh : Shared) : Prop :=
  sh.static = s0 ∧ Cache.Coherent cfg.dyn sh.cache

def stepN (cfg : Cfg) : Nat → Shared × Local → Shared × Local
  | 0, st => st
  | k + 1, st => stepN cfg k (step cfg st.1 st.2)

/-! ### the instance obligations for the rux step function -/

theorem init_pristine {c : Ctx} : c.init = Ctx.pristine := by
  cases c; rfl

theorem finish_pc (l : Local) : (finish l).pc = .done := rfl

section
variable {cfg : Cfg} {s : Static} {l : Local} {st st' : Stage} {r : Option CVal}

theorem setStatus_pc {c : Nat} : (setStatus l c).pc = l.pc := by
  fun_cases setStatus l c <;> rfl

theorem ensureHeader_pc : (ensureHeader l).pc = l.pc := by
  fun_cases ensureHeader l <;> rfl

theorem writeBody_pc {b : Bytes} : (writeBody l b).pc = l.pc := by
  unfold writeBody; simp [ensureHeader_pc]

theorem exec_pc {a : Act} : (exec l a).pc = l.pc := by
  fun_cases exec l a <;> simp +zetaDelta only [setStatus_pc, writeBody_pc]  -- `+zetaDelta`: the `let l1` of `.allow405`

theorem nextAllow_not_got {found todo : List Bytes} : (nextAllow l found todo).pc ≠ .got st r := by
  fun_cases nextAllow l found todo <;> simp

theorem afterMatch_not_got : (afterMatch cfg l).pc ≠ .got st r := by
  fun_cases afterMatch cfg l <;> simp [nextAllow_not_got]

theorem onFound_not_got {rt : Nat} {ps : Option Params} : (onFound l st rt ps).pc ≠ .got st' r := by
  fun_cases onFound l st rt ps <;> simp [nextAllow_not_got]

theorem onNone_not_got : (onNone cfg l st).pc ≠ .got st' r := by
  fun_cases onNone cfg l st <;> simp [nextAllow_not_got, afterMatch_not_got]

theorem assemble_not_got {sel : Sel} : (assemble s l sel).pc ≠ .got st r := by
  fun_cases assemble s l sel <;> simp

/-- inside `Next()` the pc stays `running` or becomes `crashed` -/
theorem stepRun_not_got (h : l.pc = .running) : (stepRun cfg l).pc ≠ .got st r := by
  fun_cases stepRun cfg l <;> simp [exec_pc, h]

/-- a request with no cache hit in hand satisfies `LInv` vacuously and is its own normal form -/
theorem settled (h : ∀ {st v}, l.pc ≠ .got st (some v)) : LInv cfg l ∧ norm l = l := by
  refine ⟨fun st v hp => absurd hp h, ?_⟩
  fun_cases norm l
  · next st r hp =>
    cases r with
    | none => rw [← hp]
    | some v => exact absurd hp h
  · rfl

theorem stepPure_norm : stepPure cfg s (norm l) = stepPure cfg s l := by
  fun_cases norm l
  · next hp => simp only [stepPure, hp]; rfl  -- `keyOf`, `onFound`, `onNone` do not read the pc
  · rfl

end

theorem step_static (cfg : Cfg) (sh : Shared) (l : Local) : (step cfg sh l).1.static = sh.static := by
  fun_cases step cfg sh l <;> try rfl
  split <;> rfl  -- `.got st none`: the `if cfg.caching` around `cache.set`

theorem step_spec (cfg : Cfg) (sh : Shared) (l : Local) :
    Cache.Coherent cfg.dyn sh.cache → LInv cfg l →
    Cache.Coherent cfg.dyn (step cfg sh l).1.cache ∧ LInv cfg (step cfg sh l).2 ∧
      norm (step cfg sh l).2 = stepPure cfg sh.static (norm l) := by
  rw [stepPure_norm]  -- so that both sides branch on `l.pc`
  -- a branch of `step` (in the order of its definition) selects the branch of `stepPure`
  fun_cases step cfg sh l <;> simp only [stepPure, *] <;> intro hc hl
  case case1 => exact ⟨hc, init_pristine ▸ settled (by simp)⟩  -- `.fresh`: `Init` makes what the pool hands out `pristine`
  case case2 => exact ⟨hc, settled onFound_not_got⟩  -- `.probe`: found in `stable`
  case case3 st _ _ _ =>  -- `.probe`: the cache is asked
    obtain ⟨hget, hc'⟩ := Cache.get_coherent cfg.dyn sh.cache (keyOf l st) hc
    refine ⟨hc', fun st' v hpv => ?_, by simp [norm]⟩
    injection hpv with hst hv
    subst hst
    exact hget v hv
  case case4 => exact ⟨hc, settled (by simp)⟩  -- `.probe`, caching off
  case case5 st v hp =>
    -- `.got` a hit: it is what `dyn` says, so the pure step finds the same route
    rw [hl st v hp]
    exact ⟨hc, settled onFound_not_got⟩
  case case6 v hd =>  -- `.got` a miss, `dyn` finds a route: it goes into the cache
    refine ⟨?_, settled onFound_not_got⟩
    split
    · exact Cache.set_coherent cfg.dyn sh.cache _ v hc hd
    · exact hc
  case case7 => exact ⟨hc, settled onNone_not_got⟩  -- `.got` a miss, `dyn` finds nothing
  case case8 => exact ⟨hc, settled assemble_not_got⟩  -- `.assemble`
  case case9 => exact ⟨hc, settled (by simp [finish_pc])⟩  -- `.running`, `Next()` has returned
  case case10 hp _ _ _ => exact ⟨hc, settled (stepRun_not_got hp)⟩  -- `.running`
  case case11 hp | case12 hp => exact ⟨hc, settled (by simp [hp])⟩  -- `.done`, `.crashed`

/-- `s0`: what registration left behind -/
def ruxSys (cfg : Cfg) (s0 : Static) : Sys Shared Local where
  step := step cfg
  norm := norm
  stepPure := stepPure cfg s0
  Coh := Coh cfg s0
  LInv := LInv cfg
  coh_step := fun sh l hc hl => ⟨(step_static cfg sh l).trans hc.1, (step_spec cfg sh l hc.2 hl).1⟩
  linv_step := fun sh l hc hl => (step_spec cfg sh l hc.2 hl).2.1
  indep := fun sh l hc hl => hc.1 ▸ (step_spec cfg sh l hc.2 hl).2.2

theorem ruxSys_run (cfg : Cfg) (s0 : Static) (n : Nat) (sch : List (Fin n)) (st : Shared × (Fin n → Local)) :
    (ruxSys cfg s0).run n sch st = run cfg n sch st := by
  fun_induction run cfg n sch st with
  | case1 => rfl
  | case2 _ _ _ _ _ ih => exact ih

/-! ### for the corollaries in Props/C03.lean -/

theorem count_filter_self {n : Nat} (i : Fin n) (sch : List (Fin n)) :
    count i (sch.filter (· = i)) = count i sch := by
  simp [count]

theorem stepPure_final {cfg : Cfg} {s : Static} {l : Local} (h : l.isFinal = true) : stepPure cfg s l = l := by
  fun_cases stepPure cfg s l <;> simp_all [Local.isFinal]

theorem iter_fixed {α : Type} {f : α → α} {a : α} (h : f a = a) (k : Nat) : iter f k a = a := by
  induction k with
  | zero => rfl
  | succ k ih => simp [iter, h, ih]

theorem iter_add {α : Type} (f : α → α) (j k : Nat) (a : α) : iter f (j + k) a = iter f k (iter f j a) := by
  induction j generalizing a with
  | zero => simp [iter]
  | succ j ih => rw [Nat.succ_add]; simp [iter, ih]

theorem norm_isFinal (l : Local) : (norm l).isFinal = l.isFinal := by
  fun_cases norm l
  · next hp => simp [Local.isFinal, hp]
  · rfl

theorem norm_of_final {l : Local} (h : l.isFinal = true) : norm l = l := by
  fun_cases norm l
  · next hp => simp [Local.isFinal, hp] at h
  · rfl

theorem runUntilPark_steps (cfg : Cfg) (fuel : Nat) (sh : Shared) (l : Local) :
    ∃ k, runUntilPark cfg fuel sh l = stepN cfg k (sh, l) := by
  fun_induction runUntilPark cfg fuel sh l with
  | case1 | case2 => exact ⟨0, rfl⟩
  | case3 _ _ _ _ _ ih =>
    obtain ⟨k, hk⟩ := ih
    exact ⟨k + 1, hk⟩

theorem sliceCells_read {s : Slice} {loc : Loc} : ⟨true, loc⟩ ∉ sliceCells s := by
  simp [sliceCells, rd]

end Rux.Conc
