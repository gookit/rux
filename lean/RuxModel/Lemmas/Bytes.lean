import RuxModel.Go.Bytes
/-
  Lemmas about the byte-string functions of Go/Bytes.lean other than the white-space trims (Lemmas/Trim.lean),
  and the literal `b!"…"`.
-/
namespace Rux

/-- `b!"text"`: the bytes of a string literal as a list literal (so that `decide` can evaluate the
    examples; `Bytes.ofString` goes through `String.toUTF8`, which the kernel does not unfold) -/
macro "b!" s:str : term => do
  let elems : Array (Lean.TSyntax `term) :=
    (s.getString.toUTF8.toList.map fun b => (Lean.quote b.toNat : Lean.TSyntax `term)).toArray
  `(([$elems,*] : List Nat))

namespace Bytes

theorem hasPrefix_iff (s p : Bytes) : hasPrefix s p = true ↔ ∃ t, s = p ++ t := by
  fun_induction hasPrefix s p with
  | case1 s => simp
  | case2 b p => simp
  | case3 a s b p ih =>
    rw [Bool.and_eq_true, decide_eq_true_eq, ih]
    constructor
    · rintro ⟨rfl, t, rfl⟩; exact ⟨t, rfl⟩
    · rintro ⟨t, h⟩; cases h; exact ⟨rfl, t, rfl⟩

theorem hasSuffix_iff (s p : Bytes) : hasSuffix s p = true ↔ ∃ y, s = y ++ p := by
  simp only [hasSuffix, hasPrefix_iff, List.reverse_eq_append_iff, List.reverse_reverse]
  exact ⟨fun ⟨t, h⟩ => ⟨_, h⟩, fun ⟨y, h⟩ => ⟨y.reverse, by rwa [List.reverse_reverse]⟩⟩

/-! ### splitOnByte -/

theorem split_ne_nil (c : Nat) (s : Bytes) : splitOnByte c s ≠ [] := by
  fun_cases splitOnByte c s <;> simp

theorem split_cons_sep (c : Nat) (t : Bytes) : splitOnByte c (c :: t) = [] :: splitOnByte c t := by
  rw [splitOnByte]
  cases h : splitOnByte c t with
  | nil => exact absurd h (split_ne_nil c t)
  | cons hd tl => exact if_pos rfl

theorem split_cons_ne {c b : Nat} (hb : b ≠ c) {t hd : Bytes} {tl : List Bytes}
    (h : splitOnByte c t = hd :: tl) : splitOnByte c (b :: t) = (b :: hd) :: tl := by
  rw [splitOnByte, h]; simp [hb]

theorem split_noSep (c : Nat) (s : Bytes) : ∀ seg ∈ splitOnByte c s, c ∉ seg := by
  fun_induction splitOnByte c s with
  | case1 => simp
  | case2 b t h ih => simp
  | case3 t hd tl h ih => exact List.forall_mem_cons.2 ⟨List.not_mem_nil, h ▸ ih⟩
  | case4 b t hd tl h hb ih =>
    rw [h, List.forall_mem_cons] at ih
    exact List.forall_mem_cons.2 ⟨by simp [Ne.symm hb, ih.1], ih.2⟩

theorem split_append_sep (c : Nat) (a t : Bytes) :
    splitOnByte c (a ++ c :: t) = splitOnByte c a ++ splitOnByte c t := by
  induction a with
  | nil => simp [split_cons_sep, splitOnByte]
  | cons x a ih =>
    by_cases hx : x = c
    · subst hx
      rw [List.cons_append, split_cons_sep, split_cons_sep, ih]; rfl
    · obtain ⟨hd, tl, e⟩ := List.exists_cons_of_ne_nil (split_ne_nil c a)
      rw [List.cons_append, split_cons_ne hx e, split_cons_ne hx (by rw [ih, e]; rfl)]; rfl

theorem split_of_noSep (c : Nat) (a : Bytes) (h : c ∉ a) : splitOnByte c a = [a] := by
  induction a with
  | nil => simp [splitOnByte]
  | cons b a ih =>
    simp only [List.mem_cons, not_or] at h
    exact split_cons_ne (Ne.symm h.1) (ih h.2)

/-! ### indexByte, quoteDots, the one-byte trims, toUpper -/

theorem indexByte_append (u p : Bytes) (c : Nat) (hu : c ∉ u) : indexByte (u ++ c :: p) c = some u.length := by
  induction u with
  | nil => simp [indexByte]
  | cons a t ih =>
    simp only [List.mem_cons, not_or] at hu
    simp [indexByte, Ne.symm hu.1, ih hu.2]

theorem indexByte_head (p : Bytes) (c : Nat) : indexByte p c = some 0 ↔ p.head? = some c := by
  fun_cases indexByte p c
  · simp
  · simp
  next b t h => simp [h]

theorem indexByte_lt (s : Bytes) (c i : Nat) (h : indexByte s c = some i) : i < s.length := by
  induction s generalizing i with
  | nil => cases h
  | cons b t ih =>
    unfold indexByte at h
    split at h
    · cases h
      exact Nat.succ_pos _
    · obtain ⟨j, hj, rfl⟩ := Option.map_eq_some_iff.mp h
      exact Nat.succ_lt_succ (ih j hj)

theorem quoteDots_no_dot {p : Bytes} (h : indexByte p 0x2E = none) : quoteDots p = p := by
  fun_induction indexByte p 0x2E with
  | case1 => rfl
  | case2 => cases h
  | case3 b t hb ih =>
    rw [Option.map_eq_none_iff] at h
    simpa [quoteDots, hb] using ih h

theorem trimLeft_cons_self (c : Nat) (s : Bytes) : trimLeftByte c (c :: s) = trimLeftByte c s := by
  simp [trimLeftByte]

theorem trimLeft_cons_ne {c b : Nat} {s : Bytes} (h : b ≠ c) : trimLeftByte c (b :: s) = b :: s := by
  simp [trimLeftByte, h]

theorem trimLeft_decomp (c : Nat) (s : Bytes) :
    ∃ k, s = List.replicate k c ++ trimLeftByte c s ∧ (trimLeftByte c s).head? ≠ some c := by
  fun_induction trimLeftByte c s with
  | case1 => exact ⟨0, rfl, nofun⟩
  | case2 t ih =>
    obtain ⟨k, h1, h2⟩ := ih
    exact ⟨k + 1, by rw [List.replicate_succ, List.cons_append, ← h1], h2⟩
  | case3 b t h => exact ⟨0, rfl, by simpa using h⟩

theorem trimRight_id {c : Nat} {l : Bytes} (h : l.getLast? ≠ some c) : trimRightByte c l = l := by
  unfold trimRightByte
  cases hr : l.reverse with
  | nil => rw [← List.reverse_reverse l, hr]; rfl
  | cons x t =>
    rw [List.getLast?_eq_head?_reverse, hr] at h
    rw [trimLeft_cons_ne (fun e => h (congrArg some e)), ← hr, List.reverse_reverse]

theorem trimRight_append_self (c : Nat) (l : Bytes) : trimRightByte c (l ++ [c]) = trimRightByte c l := by
  simp [trimRightByte, trimLeft_cons_self]

theorem toUpper_idem (s : Bytes) : toUpper (toUpper s) = toUpper s := by
  rw [toUpper, toUpper, List.map_map]
  refine List.map_congr_left fun b _ => ?_
  dsimp only [Function.comp]
  by_cases h : 97 ≤ b ∧ b ≤ 122
  · simp only [if_pos h]; exact if_neg (by omega)
  · simp only [if_neg h]

/-- rux: method names without `/` in front of paths that start with `/`: the key `method ++ path` of the static
    table determines both -/
theorem key_inj {c : Nat} {m1 m2 p1 p2 : Bytes} (h1 : c ∉ m1) (h2 : c ∉ m2)
    (h : m1 ++ c :: p1 = m2 ++ c :: p2) : m1 = m2 ∧ p1 = p2 := by
  -- the first `c` is at position `|m1|` on the left and at `|m2|` on the right
  have hl := indexByte_append m1 p1 c h1
  rw [h, indexByte_append m2 p2 c h2] at hl
  obtain ⟨e1, e2⟩ := List.append_inj h (Option.some.inj hl).symm
  exact ⟨e1, (List.cons.inj e2).2⟩

end Bytes
end Rux
