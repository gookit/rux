import RuxModel.Go.Rt
import RuxModel.Lemmas.List
/-
  The run-time of the generated definitions (Go/Rt.lean) as proofs use it.  The translator emits every `for … range` loop
  as a `forIn` over a list whose body answers `yield` (go on) or `done` (a `return` or `break` inside the loop).
-/
namespace Rux
namespace GoRt
variable {α β ε : Type}

theorem forIn_yield (l : List α) {body : α → β → Except ε (ForInStep β)} (f : α → β → β)
    (h : ∀ a ∈ l, ∀ b, body a b = .ok (.yield (f a b))) (init : β) :
    forIn l init body = .ok (l.foldl (fun b a => f a b) init) := by
  induction l generalizing init with
  | nil => rfl
  | cons a t ih =>
    rw [List.forIn_cons, h a List.mem_cons_self]
    exact ih (fun a' ha' => h a' (List.mem_cons_of_mem _ ha')) _

/-- the same for the loops of a function that cannot panic -/
theorem forIn_yield_id (l : List α) {body : α → β → Id (ForInStep β)} (f : α → β → β)
    (h : ∀ a b, body a b = ForInStep.yield (f a b)) (init : β) :
    (forIn l init body : Id β) = l.foldl (fun b a => f a b) init := by
  induction l generalizing init with
  | nil => rfl
  | cons a t ih =>
    rw [List.forIn_cons, h]
    exact ih _

/-- a search: the body leaves at the first `a` with `p a`, with `g a`, and does not touch the state before -/
theorem forIn_find (l : List α) {init : β} {body : α → β → Except ε (ForInStep β)} {p : α → Bool} {g : α → β}
    (h : ∀ a ∈ l, body a init = .ok (if p a then .done (g a) else .yield init)) :
    forIn l init body = .ok (match l.find? p with | some a => g a | none => init) := by
  induction l with
  | nil => rfl
  | cons a t ih =>
    rw [List.forIn_cons, h a List.mem_cons_self, List.find?_cons]
    cases p a with
    | true => rfl
    | false => exact ih fun a' ha' => h a' (List.mem_cons_of_mem _ ha')

/-- `for i, x := range xs`, counting from `k`; `I n` is the state before round `n` -/
theorem forIn_enumFrom (xs : List α) (body : Int × α → β → Except ε (ForInStep β)) (k : Int) (I : Nat → β)
    (h : ∀ n (hn : n < xs.length), body (k + n, xs[n]) (I n) = .ok (.yield (I (n + 1)))) :
    forIn (enumFrom k xs) (I 0) body = .ok (I xs.length) := by
  induction xs generalizing k I with
  | nil => rfl
  | cons a t ih =>
    have h0 := h 0 (Nat.succ_pos _)
    rw [Int.natCast_zero, Int.add_zero, List.getElem_cons_zero] at h0
    rw [enumFrom, List.forIn_cons, h0]
    exact ih (k + 1) (fun n => I (n + 1)) fun n hn => by
      have := h (n + 1) (Nat.succ_lt_succ hn)
      rwa [Int.natCast_succ, Int.add_comm n 1, ← Int.add_assoc] at this

theorem forIn_enum (xs : List α) (body : Int × α → β → Except ε (ForInStep β)) (I : Nat → β)
    (h : ∀ n (hn : n < xs.length), body ((n : Int), xs[n]) (I n) = .ok (.yield (I (n + 1)))) :
    forIn (enum xs) (I 0) body = .ok (I xs.length) :=
  forIn_enumFrom xs body 0 I fun n hn => by rw [Int.zero_add, h n hn]

/-! ### indexing and slicing within range -/

theorem elemAt_eq_listAt (s : List Bytes) (i : Int) : elemAt s i = listAt s i := by
  unfold elemAt listAt
  cases s[i.toNat]? <;> rfl

theorem byteAt_eq_listAt (s : Bytes) (i : Int) : byteAt s i = listAt s i := by
  unfold byteAt listAt
  cases s[i.toNat]? <;> rfl

theorem slice_eq_sliceList : slice = sliceList (α := Nat) := rfl

theorem listAt_nat (l : List α) {i : Nat} (h : i < l.length) : listAt l (i : Int) = .ok l[i] := by
  simp [listAt, h]

theorem sliceList_nat (l : List α) {lo hi : Nat} (h : lo ≤ hi ∧ hi ≤ l.length) :
    sliceList l (lo : Int) (hi : Int) = .ok ((l.drop lo).take (hi - lo)) := by
  unfold sliceList
  rw [if_pos ⟨Int.natCast_nonneg lo, Int.ofNat_le.mpr h.1, Int.ofNat_le.mpr h.2⟩, Int.toNat_natCast, Int.toNat_natCast]

theorem slice_nat (s : Bytes) (lo hi : Nat) (h : lo ≤ hi) (hh : hi ≤ s.length) :
    slice s lo hi = .ok ((s.drop lo).take (hi - lo)) :=
  sliceList_nat s ⟨h, hh⟩

/-! The slices the generated code takes with a literal bound `0` or `1`: `rw` and `simp` do not see the literal as a
    cast, so `slice_nat` does not fire on them. -/

theorem slice_to {s : Bytes} {n : Nat} (h : n ≤ s.length) : slice s 0 (n : Int) = .ok (s.take n) :=
  slice_nat s 0 n (Nat.zero_le _) h

theorem slice_from1 (s : Bytes) (h : 1 ≤ s.length) : slice s 1 s.length = .ok (s.drop 1) :=
  (slice_nat s 1 s.length h (Nat.le_refl _)).trans
    (congrArg _ (List.take_of_length_le (Nat.le_of_eq List.length_drop)))

theorem slice_1_to (s : Bytes) (pos : Nat) (h : pos + 1 ≤ s.length) :
    slice s 1 ((pos : Int) + 1) = .ok ((s.drop 1).take pos) :=
  slice_nat s 1 (pos + 1) (Nat.le_add_left 1 pos) h

/-- `len(xs) > 0` as the translator writes it -/
theorem len_pos_cons (a : α) (t : List α) : decide (((a :: t).length : Int) > 0) = true :=
  decide_eq_true (Int.natCast_pos.mpr (Nat.succ_pos _))

/-! ### the maps of the run-time -/

theorem find?_kvSet (m : KV) (k v k' : Bytes) :
    (kvSet m k v).find? (fun x => x.1 == k') = if k' = k then some (k, v) else m.find? (fun x => x.1 == k') :=
  find?_cons_filter_key m k k' v

theorem kvGetD_kvSet (m : KV) (k v k' : Bytes) :
    kvGetD (kvSet m k v) k' = if k' = k then v else kvGetD m k' := by
  unfold kvGetD
  rw [find?_kvSet]
  by_cases h : k' = k
  · rw [if_pos h, if_pos h]
  · rw [if_neg h, if_neg h]

theorem dataGet_dataSet (d : Option Data) (k k' : Bytes) (v : DV) :
    dataGet (dataSet d k v) k' = if k' = k then (v, true) else dataGet d k' := by
  unfold dataGet dataSet
  rw [Option.getD_some, find?_cons_filter_key]
  by_cases h : k' = k
  · rw [if_pos h, if_pos h]
  · rw [if_neg h, if_neg h]

end GoRt
end Rux
