import RuxModel.Model.Chain
/-
  Lemmas about the handler-chain model.  The cursor loop `next` (with the int8 wrap) computes exactly the onion
  specification, for every chain of at most 63 handlers and every behaviour, with an explicit fuel bound, so that
  termination is part of the statement (`next_eq_onion`, `serve_eq_onion`).  Everything after that rests on the onion in
  closed form (`onion_cons`): its traces pass the validator `check`, whose accepted traces `check_sound` describes; the
  events of one handler in them are exactly its own actions, once (`proj_onion`).  `W.run` is the fold of the chain
  model's own abstract writer `Chain.W` (C05's status clauses).
-/
namespace Rux.Chain

/-! ### the loop computes the onion -/

theorem wrap8_id {x : Int} (h1 : -128 ≤ x) (h2 : x ≤ 127) : wrap8 x = x := by
  unfold wrap8; omega

theorem last_eq {s : Nat} (hs : s ≤ 63) : wrap8 (wrap8 (s : Int) - 1) = (s : Int) - 1 := by
  rw [wrap8_id (x := s) (by omega) (by omega), wrap8_id (by omega) (by omega)]

theorem next_done {hs : List Handler} (hlen : hs.length ≤ 63) {f : Nat} {st : St}
    (h : ¬ st.idx < (hs.length : Int) - 1) : next hs (f + 1) st = .ok st := by
  rw [next]; simp only [last_eq hlen, h, if_false]

/-- one iteration of the loop within the limit: no wrap happens -/
theorem next_step {hs : List Handler} (hlen : hs.length ≤ 63) {f i : Nat} {tr : List Ev} (hi : i < hs.length)
    {st2 : St} (hrun : runActs (next hs f) i hs[i] ⟨i, tr ++ [.enter i]⟩ = .ok st2) :
    next hs (f + 1) ⟨(i : Int) - 1, tr⟩ = next hs f { st2 with trace := st2.trace ++ [.leave i] } := by
  have hj : wrap8 ((i : Int) - 1 + 1) = (i : Int) := by rw [Int.sub_add_cancel, wrap8_id (by omega) (by omega)]
  rw [next]
  simp only [last_eq hlen, Int.sub_lt_sub_right (Int.ofNat_lt.mpr hi) 1, if_true, hj, Int.toNat_natCast,
    Int.natCast_nonneg, List.getElem?_eq_getElem hi, hrun]

/-! #### equations of `ownEv`, `specStep`, `runActs` -/

theorem ownEv_snd (i : Nat) (ab : Bool) (a : Act) : (ownEv i ab a).2 = (ab || a.isAbort) := by
  cases a <;> simp [ownEv, Act.isAbort]

theorem specStep_next (i : Nat) (R : List Ev × Bool) (acc : Acc) :
    specStep i R acc .next =
      if !acc.started && !acc.ab then { tr := acc.tr ++ R.1, started := true, ab := R.2 } else acc :=
  if_pos rfl

theorem specStep_own {i : Nat} {R : List Ev × Bool} {acc : Acc} {a : Act} (h : a ≠ .next) :
    specStep i R acc a = { acc with tr := acc.tr ++ (ownEv i acc.ab a).1, ab := acc.ab || a.isAbort } := by
  simp [specStep, h, ownEv_snd]

theorem runActs_own {nx : St → Res} {i : Nat} {a : Act} (h : a ≠ .next) {rest : List Act} {st : St} :
    runActs nx i (a :: rest) st =
      runActs nx i rest ⟨if a.isAbort then abortIndex else st.idx,
        st.trace ++ (ownEv i (decide (st.idx ≥ abortIndex)) a).1⟩ := by
  cases a with
  | next => exact absurd rfl h
  | _ => rfl

/-! #### the cursor along the onion -/

/-- the run state at the point of handler `i`'s body that `acc` describes, `pre` being the trace before it; the cursor
    `idxOf` is at `abortIndex` once aborted, else at the last handler once the rest of the chain has run, else at `i` -/
def point (s i : Nat) (pre : List Ev) (acc : Acc) : St := ⟨idxOf s i acc.started acc.ab, pre ++ acc.tr⟩

theorem runActs_spec {s i : Nat} {nx : St → Res} {R : List Ev × Bool} (hs63 : s ≤ 63) (hi : i < s)
    (hnext : ∀ pre acc, nx (point s i pre acc) = .ok (point s i pre (specStep i R acc .next)))
    (pre : List Ev) : ∀ (acts : List Act) (acc : Acc),
      runActs nx i acts (point s i pre acc) = .ok (point s i pre (acts.foldl (specStep i R) acc))
  | [], _ => rfl
  | a :: rest, acc => by
    rw [List.foldl_cons, ← runActs_spec hs63 hi hnext pre rest]
    by_cases hn : a = .next
    · subst hn; rw [runActs, hnext]
    · -- `IsAborted()` reads the cursor, which is at `abortIndex` exactly when `acc.ab`
      have hab : decide ((point s i pre acc).idx ≥ abortIndex) = acc.ab := by
        unfold point idxOf abortIndex
        cases acc.ab <;> cases acc.started <;> simp <;> omega
      rw [runActs_own hn, specStep_own hn, hab]
      cases a.isAbort <;> simp [point, idxOf]

-- the limit is stated as the source states it, `(hs.length : Int) ≤ abortIndex`; the `wrap8` lemmas want the numeral
theorem le_63_of_le_abortIndex {n : Nat} (h : (n : Int) ≤ abortIndex) : n ≤ 63 := by
  unfold abortIndex at h; omega

/-- `Next()` entered with the cursor in front of handler `i` runs the onion of handlers `i, i+1, …`;
    `hs.length - i + 1` units of fuel suffice, and `d` more change nothing. -/
theorem next_eq_onion {hs : List Handler} (hlim : (hs.length : Int) ≤ abortIndex) (d : Nat) :
    ∀ (k i : Nat), i + k = hs.length → ∀ (tr : List Ev),
      next hs (d + k + 1) ⟨(i : Int) - 1, tr⟩ =
        .ok ⟨if (onion i (hs.drop i)).2 then abortIndex else (hs.length : Int) - 1, tr ++ (onion i (hs.drop i)).1⟩ := by
  have hlen := le_63_of_le_abortIndex hlim
  intro k
  induction k with
  | zero =>
    rintro i rfl tr
    rw [next_done hlen (by simp)]
    simp [onion]
  | succ k ih =>
    intro i hik tr
    have hi : i < hs.length := by omega
    have hrest := fun tr => ih (i + 1) (by omega) tr
    rw [Int.natCast_add, Int.natCast_one, Int.add_sub_cancel] at hrest
    rw [List.drop_eq_getElem_cons hi, onion]
    generalize onion (i + 1) (hs.drop (i + 1)) = R at hrest ⊢
    -- a Next() inside handler `i`, or the loop test after it has returned, does what `specStep` says
    have hnext : ∀ pre acc, next hs (d + k + 1) (point hs.length i pre acc) =
        .ok (point hs.length i pre (specStep i R acc .next)) := by
      have h63 : ¬ abortIndex < (hs.length : Int) - 1 := by omega
      rintro pre ⟨tr', started, ab⟩
      rw [specStep_next]
      cases started <;> cases ab
      · simp [point, idxOf, hrest]
      · exact next_done hlen h63                  -- aborted: cursor at `abortIndex`
      · exact next_done hlen (Int.lt_irrefl _)    -- the rest has run: cursor at the last handler
      · exact next_done hlen h63
    have hrun := runActs_spec hlen hi hnext (tr ++ [.enter i]) hs[i] ⟨[], false, false⟩
    generalize hs[i].foldl (specStep i R) ⟨[], false, false⟩ = acc at hrun ⊢
    -- after the handler has returned: `leave i`, then the loop test once more
    have hloop := hnext (tr ++ [.enter i]) { acc with tr := acc.tr ++ [.leave i] }
    simp only [point, idxOf, Bool.false_eq_true, if_false, List.append_nil, List.append_assoc] at hrun hloop
    refine (next_step hlen hi hrun).trans ?_
    simp only [List.append_assoc, hloop, specStep_next]
    -- `onion` tests `!acc.started && !acc.ab` as `specStep_next` does
    cases acc.started <;> cases acc.ab <;> simp

theorem serve_eq_onion {hs : List Handler} (hlen : (hs.length : Int) ≤ abortIndex) :
    serve hs = .ok ⟨if (onion 0 hs).2 then abortIndex else (hs.length : Int) - 1, (onion 0 hs).1⟩ := by
  simpa [serve] using next_eq_onion hlen 0 hs.length 0 (Nat.zero_add _) []

theorem serve_trace {hs : List Handler} (hlen : (hs.length : Int) ≤ abortIndex) {st : St} (hrun : serve hs = .ok st) :
    st.trace = (onion 0 hs).1 := by
  rw [serve_eq_onion hlen] at hrun
  cases hrun; rfl

/-! ### the onion in closed form -/

section
variable (i : Nat) (R : List Ev × Bool)

theorem flat_snd : ∀ (acts : List Act) (ab : Bool), (flat i ab acts).2 = (ab || acts.any Act.isAbort)
  | [], ab => by simp [flat]
  | a :: rest, ab => by simp [flat, flat_snd rest, ownEv_snd, Bool.or_assoc]

theorem flat_no_abort (acts : List Act) (ab : Bool) (h : ∀ a ∈ acts, a.isAbort = false) :
    (flat i ab acts).2 = ab := by
  rw [flat_snd, List.any_eq_false.mpr fun a ha => by simp [h a ha], Bool.or_false]

theorem flat_filter_next : ∀ (acts : List Act) (ab : Bool),
    flat i ab (acts.filter (fun a => !decide (a = Act.next))) = flat i ab acts
  | [], ab => rfl
  | a :: rest, ab => by
    by_cases hn : a = .next
    · subst hn; simp [flat, ownEv, flat_filter_next rest]
    · simp [hn, flat, flat_filter_next rest]

/-- once the rest of the chain has run or the handler has aborted, a `Next()` does nothing: the fold is `flat` -/
theorem fold_inert : ∀ (acts : List Act) (acc : Acc), (acc.started = true ∨ acc.ab = true) →
      acts.foldl (specStep i R) acc =
        ⟨acc.tr ++ (flat i acc.ab acts).1, acc.started, (flat i acc.ab acts).2⟩
  | [], acc, _ => by simp [flat]
  | a :: rest, acc, h => by
    rw [List.foldl_cons]
    by_cases hn : a = .next
    · subst hn
      have hstep : specStep i R acc .next = acc := by
        rw [specStep_next]; rcases h with h | h <;> simp [h]
      rw [hstep, fold_inert rest acc h]
      simp [flat, ownEv]
    · have h' : acc.started = true ∨ (acc.ab || a.isAbort) = true := h.imp id fun h => by simp [h]
      rw [specStep_own hn, fold_inert rest _ h']
      simp [flat, ownEv_snd]

/-- from a fresh accumulator the fold splits the handler at its first effective `Next()`; both parts are `flat` -/
theorem fold_fresh (acts : List Act) (tr : List Ev) :
    acts.foldl (specStep i R) ⟨tr, false, false⟩ =
      match splitNext acts with
      | some (pre, post) =>
        ⟨tr ++ (flat i false pre).1 ++ R.1 ++ (flat i R.2 post).1, true, (flat i R.2 post).2⟩
      | none => ⟨tr ++ (flat i false acts).1, false, (flat i false acts).2⟩ := by
  fun_induction splitNext acts generalizing tr with
  | case1 => simp [flat]
  | case2 rest =>
    rw [List.foldl_cons, specStep_next, fold_inert i R rest _ (Or.inl rfl)]
    simp [flat]
  | case3 a rest hn ha =>
    rw [List.foldl_cons, specStep_own hn, fold_inert i R rest _ (Or.inr (by simp [ha]))]
    simp [flat, ownEv_snd]
  | case4 a rest hn ha ih =>
    rw [Bool.not_eq_true] at ha
    rw [List.foldl_cons, specStep_own hn, ha, Bool.or_false, ih]
    cases splitNext rest <;> simp [flat, ownEv_snd, ha]

theorem onion_cons (h : Handler) (rest : List Handler) :
    onion i (h :: rest) = onionStep i h (onion (i + 1) rest) := by
  simp only [onion, onionStep, fold_fresh]
  cases splitNext h with
  | some pq => simp
  | none => cases (flat i false h).2 <;> simp

end

theorem splitNext_some {h pre post : List Act} (hs : splitNext h = some (pre, post)) :
    h = pre ++ .next :: post ∧ (∀ a ∈ pre, a.isAbort = false) := by
  fun_induction splitNext h generalizing pre with
  | case1 => cases hs
  | case2 rest => cases hs; simp
  | case3 a rest hn ha => cases hs
  | case4 a rest hn ha ih =>
    obtain ⟨⟨p, q⟩, hr, hpq⟩ := Option.map_eq_some_iff.mp hs
    cases hpq
    obtain ⟨e, hp⟩ := ih hr
    exact ⟨by rw [e]; rfl, List.forall_mem_cons.mpr ⟨by simpa using ha, hp⟩⟩

theorem splitNext_eq_some : ∀ (pre post : List Act), (∀ a ∈ pre, a ≠ .next ∧ a.isAbort = false) →
    splitNext (pre ++ .next :: post) = some (pre, post)
  | [], _, _ => rfl
  | a :: rest, post, h => by
    obtain ⟨h1, hr⟩ := List.forall_mem_cons.mp h
    simp [splitNext, h1.1, h1.2, splitNext_eq_some rest post hr]

theorem splitNext_eq_none {h : List Act} (hn : Act.next ∉ h) : splitNext h = none := by
  cases hs : splitNext h with
  | none => rfl
  | some pq => exact absurd (by rw [(splitNext_some hs).1]; simp) hn

theorem splitNext_none : ∀ (h : List Act), splitNext h = none → (flat i false h).2 = false →
    ∀ a ∈ h, a ≠ .next ∧ a.isAbort = false := by
  intro h hs hf
  have hna : ∀ a ∈ h, a.isAbort = false := by simpa [flat_snd] using hf
  refine fun a ha => ⟨?_, hna a ha⟩
  rintro rfl
  -- split at the first `Next()`: nothing before it aborts, so it is effective
  obtain ⟨pre, post, rfl, hpre⟩ := List.eq_append_cons_of_mem ha
  rw [splitNext_eq_some pre post fun a ha => ⟨fun e => hpre (e ▸ ha), hna a (by simp [ha])⟩] at hs
  cases hs

/-! ### every onion trace passes the validator -/

theorem check_cons (s : CSt) (e : Ev) (tr : List Ev) : check s (e :: tr) = (checkStep s e).bind (check · tr) := by
  rw [check]; cases checkStep s e <;> rfl

theorem check_append (s : CSt) (a b : List Ev) :
    check s (a ++ b) = (check s a).bind (fun s' => check s' b) := by
  induction a generalizing s with
  | nil => rfl
  | cons e rest ih => simp only [List.cons_append, check_cons, ih, Option.bind_assoc]

theorem check_ownEv (i : Nat) (stk : List Nat) (n : Nat) (ab : Bool) (a : Act) :
    check ⟨ab, i :: stk, n⟩ (ownEv i ab a).1 = some ⟨(ownEv i ab a).2, i :: stk, n⟩ := by
  cases a <;> simp [ownEv, check, checkStep]

theorem check_flat (i : Nat) (stk : List Nat) (n : Nat) : ∀ (acts : List Act) (ab : Bool),
    check ⟨ab, i :: stk, n⟩ (flat i ab acts).1 = some ⟨(flat i ab acts).2, i :: stk, n⟩
  | [], _ => rfl
  | a :: rest, ab => by
    rw [flat, check_append, check_ownEv]
    exact check_flat i stk n rest _

/-- `k` is the number of handlers that start -/
theorem check_onion : ∀ (hs : List Handler) (i : Nat),
    ∃ k, k ≤ hs.length ∧ ((onion i hs).2 = false → k = hs.length) ∧
      ∀ stk, check ⟨false, stk, i⟩ (onion i hs).1 = some ⟨(onion i hs).2, stk, i + k⟩
  | [], i => ⟨0, Nat.le_refl _, fun _ => rfl, fun _ => rfl⟩
  | h :: rest, i => by
    obtain ⟨kR, hk1, hk2, hk3⟩ := check_onion rest (i + 1)
    rw [onion_cons]
    -- in each of the three shapes `check` is evaluated piece by piece (`check_append`): `checkStep` at `enter i` and
    -- `leave i`, `check_flat` over the handler's own stretches, the induction hypothesis `hk3` over the rest of the chain
    fun_cases onionStep i h (onion (i + 1) rest)
    case case1 pre post hsp =>
      have hpre := flat_no_abort i pre false (splitNext_some hsp).2
      refine ⟨kR + 1, Nat.succ_le_succ hk1, fun hab => ?_, fun stk => ?_⟩
      · simp only [flat_snd, Bool.or_eq_false_iff] at hab
        rw [hk2 hab.1, List.length_cons]
      · simp only [check, checkStep, and_self, ↓reduceIte,
          check_append, check_flat, hpre, hk3, Option.bind_some, Nat.add_assoc, Nat.add_comm 1]
    case case2 hsp hab =>
      refine ⟨1, by simp, by simp, fun stk => ?_⟩
      simp only [check, checkStep, and_self, ↓reduceIte, check_append, check_flat, hab,
        Option.bind_some]
    case case3 hsp hab =>
      refine ⟨kR + 1, Nat.succ_le_succ hk1, fun h => by rw [hk2 h, List.length_cons], fun stk => ?_⟩
      simp only [check, checkStep, and_self, ↓reduceIte,
        check_append, check_flat, hab, hk3, Option.bind_some, Nat.add_assoc, Nat.add_comm 1]

theorem serve_check {hs : List Handler} (hlen : (hs.length : Int) ≤ abortIndex) {st : St} (hrun : serve hs = .ok st) :
    ∃ k ab, k ≤ hs.length ∧ (ab = false → k = hs.length) ∧ check ⟨false, [], 0⟩ st.trace = some ⟨ab, [], k⟩ := by
  obtain ⟨k, h1, h2, h3⟩ := check_onion hs 0
  rw [serve_trace hlen hrun]
  exact ⟨k, _, h1, h2, by simpa using h3 []⟩

/-! ### what an accepted trace looks like -/

theorem check_split {s s' : CSt} {pre post : List Ev} {e : Ev}
    (h : check s (pre ++ e :: post) = some s') :
    ∃ s1 s2, check s pre = some s1 ∧ checkStep s1 e = some s2 ∧ check s2 post = some s' := by
  simp only [check_append, check_cons] at h
  obtain ⟨s1, h1, h⟩ := Option.bind_eq_some_iff.mp h
  obtain ⟨s2, h2, h⟩ := Option.bind_eq_some_iff.mp h
  exact ⟨s1, s2, h1, h2, h⟩

/-- one accepted event, in the form in which `check_sound` chains the steps: `tr` is the trace still to come -/
theorem checkStep_some {s s' : CSt} {e : Ev} (h : checkStep s e = some s') (tr : List Ev) :
    s'.ab = (s.ab || e.isAbort) ∧ nest s.stack (e :: tr) = nest s'.stack tr ∧
    List.range s.nxt ++ enters (e :: tr) = List.range s'.nxt ++ enters tr := by
  revert h
  fun_cases checkStep s e
  all_goals intro h; cases h
  all_goals simp [nest, enters, *, Ev.isAbort, Ev.handler, List.range_succ]

/-- the abort flag is "some abort event so far" (what an `IsAborted()` sample has to show); the third part: the handlers
    start in list order, without gaps and without repetition -/
theorem check_sound {s s' : CSt} {tr : List Ev} (h : check s tr = some s') :
    s'.ab = (s.ab || tr.any Ev.isAbort) ∧ nest s.stack tr = some s'.stack ∧
    List.range s.nxt ++ enters tr = List.range s'.nxt := by
  fun_induction check s tr with
  | case1 s => cases h; simp [nest, enters]
  | case2 s e rest s1 h1 ih =>
    obtain ⟨ha, hn, he⟩ := ih h
    obtain ⟨ha1, hn1, he1⟩ := checkStep_some h1 rest
    exact ⟨by rw [ha, ha1]; simp [Bool.or_assoc], hn1.trans hn, he1.trans he⟩
  | case3 => cases h

theorem serve_nest {hs : List Handler} (hlen : (hs.length : Int) ≤ abortIndex) {st : St} (hrun : serve hs = .ok st) :
    nest [] st.trace = some [] := by
  obtain ⟨k, ab, _, _, hck⟩ := serve_check hlen hrun
  exact (check_sound hck).2.1

theorem check_no_enter {s s' : CSt} {tr : List Ev} (h : check s tr = some s') (hab : s.ab = true) (j : Nat) :
    Ev.enter j ∉ tr := by
  intro hm
  obtain ⟨pre, post, rfl⟩ := List.append_of_mem hm
  obtain ⟨s1, s2, h1, h2, _⟩ := check_split h
  -- `enter j` is accepted only while nothing has aborted
  obtain ⟨⟨h0, _⟩, _⟩ := Option.ite_none_right_eq_some.mp h2
  simp [(check_sound h1).1, hab] at h0

/-! ### the events of one handler -/

section
variable (i : Nat)

theorem ownEv_handler (ab : Bool) (a : Act) : ∀ e ∈ (ownEv i ab a).1, e.handler = i := by
  cases a <;> simp [ownEv, Ev.handler]

theorem flat_handler : ∀ (acts : List Act) (ab : Bool), ∀ e ∈ (flat i ab acts).1, e.handler = i
  | [], _ => by simp [flat]
  | a :: rest, ab => List.forall_mem_append.mpr ⟨ownEv_handler i ab a, flat_handler rest _⟩

theorem ownEv_erase (ab : Bool) (a : Act) : (ownEv i ab a).1.map Ev.erase = (ownEv i false a).1.map Ev.erase := by
  cases a <;> rfl

theorem flat_erase : ∀ (acts : List Act) (ab : Bool), (flat i ab acts).1.map Ev.erase = shape i acts
  | [], ab => by simp [flat, shape]
  | a :: rest, ab => by
    simp only [flat, shape, List.map_append]
    rw [flat_erase rest, flat_erase rest, ownEv_erase]

theorem flat_append : ∀ (x y : List Act) (ab : Bool),
    flat i ab (x ++ y) = ((flat i ab x).1 ++ (flat i (flat i ab x).2 y).1, (flat i (flat i ab x).2 y).2)
  | [], y, ab => by simp [flat]
  | a :: rest, y, ab => by simp [flat, flat_append rest]

theorem shape_append (x y : List Act) : shape i (x ++ y) = shape i x ++ shape i y := by
  rw [shape, flat_append, List.map_append, flat_erase, flat_erase]

theorem shape_next (acts : List Act) : shape i (.next :: acts) = shape i acts := rfl

@[simp] theorem proj_append (j : Nat) (a b : List Ev) : proj j (a ++ b) = proj j a ++ proj j b := by
  simp [proj]

@[simp] theorem proj_nil (j : Nat) : proj j [] = [] := rfl

@[simp] theorem proj_cons (j : Nat) (e : Ev) (tr : List Ev) :
    proj j (e :: tr) = if e.handler = j then e :: proj j tr else proj j tr := by
  simp [proj, List.filter_cons]

theorem proj_flat (j : Nat) (ab : Bool) (acts : List Act) :
    proj j (flat i ab acts).1 = if i = j then (flat i ab acts).1 else [] := by
  have h := flat_handler i acts ab
  split
  · exact List.filter_eq_self.mpr fun e he => by simp [h e he, *]
  · exact List.filter_eq_nil_iff.mpr fun e he => by simp [h e he, *]

theorem proj_onionStep_other {i j : Nat} (hne : i ≠ j) (h : Handler) (R : List Ev × Bool) :
    proj j (onionStep i h R).1 = [] ∨ proj j (onionStep i h R).1 = proj j R.1 := by
  fun_cases onionStep i h R <;> simp [proj_flat, Ev.handler, hne]

theorem proj_onionStep_self (h : Handler) {R : List Ev × Bool} (hR : proj i R.1 = []) :
    (proj i (onionStep i h R).1).map Ev.erase = [Ev.enter i] ++ shape i h ++ [.leave i] := by
  fun_cases onionStep i h R
  case case1 pre post hsp =>
    obtain ⟨rfl, _⟩ := splitNext_some hsp
    simp [hR, proj_flat, flat_erase, shape_append, shape_next, Ev.handler, Ev.erase]
  all_goals simp [hR, proj_flat, flat_erase, Ev.handler, Ev.erase]

theorem proj_onion : ∀ (hs : List Handler) (i j : Nat),
    proj j (onion i hs).1 = [] ∨
      ∃ k h, j = i + k ∧ hs[k]? = some h ∧
        (proj j (onion i hs).1).map Ev.erase = [Ev.enter j] ++ shape j h ++ [.leave j]
  | [], i, j => .inl rfl
  | h :: rest, i, j => by
    have ih := proj_onion rest (i + 1) j
    rw [onion_cons]
    by_cases hij : i = j
    · subst hij
      have hR : proj i (onion (i + 1) rest).1 = [] := ih.resolve_right fun ⟨k, _, hk, _⟩ => by omega
      exact .inr ⟨0, h, rfl, rfl, proj_onionStep_self i h hR⟩
    · rcases proj_onionStep_other hij h (onion (i + 1) rest) with e | e
      · exact .inl e
      · rw [e]
        exact ih.imp_right fun ⟨k, h', hk, hh, hp⟩ => ⟨k + 1, h', by omega, hh, hp⟩

/-! ### `enters` and `leaves` -/

theorem enters_append (a b : List Ev) : enters (a ++ b) = enters a ++ enters b := by
  induction a with
  | nil => simp [enters]
  | cons e rest ih => cases e <;> simp [enters, ih]

theorem leaves_append (a b : List Ev) : leaves (a ++ b) = leaves a ++ leaves b := by
  induction a with
  | nil => simp [leaves]
  | cons e rest ih => cases e <;> simp [leaves, ih]

theorem flat_enters_leaves : ∀ (acts : List Act) (ab : Bool),
    enters (flat i ab acts).1 = [] ∧ leaves (flat i ab acts).1 = []
  | [], ab => ⟨rfl, rfl⟩
  | a :: rest, ab => by
    simp only [flat, enters_append, leaves_append, flat_enters_leaves rest, List.append_nil]
    cases a <;> exact ⟨rfl, rfl⟩

end

/-! ### the writer fold -/

variable (w : W)

theorem W.run_append (a b : List Ev) : W.run w (a ++ b) = W.run (W.run w a) b :=
  List.foldl_append

theorem W.run_cons (e : Ev) (t : List Ev) : W.run w (e :: t) = W.run (w.step e) t := rfl

theorem W.ensure_of_committed {w : W} {s : Nat} (h : w.committed = some s) : w.ensure = w := by
  simp [W.ensure, h]

theorem W.ensure_ensure : w.ensure.ensure = w.ensure := by
  cases h : w.committed with
  | some s => rw [W.ensure_of_committed h, W.ensure_of_committed h]
  | none => simp [W.ensure, h]

theorem W.ensure_commits : ∃ s, w.ensure.committed = some s := by
  cases hc : w.committed with
  | some s => exact ⟨s, by rw [W.ensure_of_committed hc, hc]⟩
  | none => exact ⟨if w.status = 0 then 200 else w.status, by simp only [W.ensure, hc]⟩

theorem W.step_committed {e : Ev} (h : e.isWrite = false) : (w.step e).committed = w.committed := by
  fun_cases W.step w e
  case case3 => cases h
  all_goals rfl

theorem W.step_committed_some {w : W} {s : Nat} (h : w.committed = some s) (e : Ev) :
    (w.step e).committed = some s := by
  cases e with
  | write _ _ => simp only [W.step, W.ensure_of_committed h, h]
  | _ => rw [W.step_committed w rfl, h]

theorem W.step_ensure {e : Ev} (h : e.isStatus = false) : (w.step e).ensure = w.ensure := by
  cases e with
  | status _ _ => cases h
  | write _ _ => exact W.ensure_ensure w
  | _ => rfl

theorem W.step_status (i : Nat) {c : Nat} (hc : c > 0) : (w.step (.status i c)).status = c := by
  simp only [W.step]
  split
  · rfl
  · rename_i h; exact Decidable.byContradiction fun hne => h ⟨hc, hne⟩

theorem W.run_no_write {tr : List Ev} (h : ∀ e ∈ tr, e.isWrite = false) :
    (W.run w tr).committed = w.committed :=
  tr.foldlRecOn W.step (motive := (·.committed = w.committed)) rfl fun w' hw e he =>
    (W.step_committed w' (h e he)).trans hw

theorem W.run_committed {w : W} {s : Nat} (h : w.committed = some s) (tr : List Ev) :
    (W.run w tr).committed = some s :=
  tr.foldlRecOn W.step (motive := (·.committed = some s)) h fun _ hw e _ => W.step_committed_some hw e

theorem W.run_no_status {tr : List Ev} (h : ∀ e ∈ tr, e.isStatus = false) :
    (W.run w tr).ensure = w.ensure :=
  tr.foldlRecOn W.step (motive := (·.ensure = w.ensure)) rfl fun w' hw e he => (W.step_ensure w' (h e he)).trans hw

theorem W.run_write {tr : List Ev} (h : ∃ e ∈ tr, e.isWrite = true) :
    ∃ s, (W.run w tr).committed = some s := by
  obtain ⟨e, he, hw⟩ := h
  obtain ⟨a, b, rfl⟩ := List.append_of_mem he
  cases e with
  | write _ _ =>
    obtain ⟨s, hs⟩ := W.ensure_commits (W.run w a)
    exact ⟨s, by rw [W.run_append, W.run_cons]; exact W.run_committed hs b⟩
  | _ => cases hw

end Rux.Chain
