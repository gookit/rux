import RuxModel.Spec.Render
import RuxModel.Lemmas.Writer
/-
  Lemmas about the render model (Model/Render.lean); the property theorems are in Props/C19.lean.
-/
namespace Rux
namespace Render
open Writer

/-! ### the writer model, as far as only the render helpers need it -/

theorem ensure_ctype (w : W) : (ensure w).ctype = w.ctype := by
  fun_cases ensure w <;> rfl

theorem step_write_ctype (w : W) (b : Bytes) (acc : Nat) (err : Bool) :
    (step w (.write b acc err)).ctype = w.ctype := by
  simp [step, ensure_ctype]

theorem step_setHeader (w : W) : step w .setHeader = w := rfl

theorem ensure_sent_committed (w : W) (h : 0 ≤ w.length) : (ensure w).sent = w.sent := by
  rw [ensure_committed w h]

theorem norm_eq (cur : Int) : norm cur = if cur = 0 then 200 else cur := rfl

theorem body_wh (c : Int) : Ev.body (.wh c) = [] := rfl

theorem bodyOf_nil : bodyOf [] = [] := rfl

theorem bodyOf_append (a b : List Ev) : bodyOf (a ++ b) = bodyOf a ++ bodyOf b := List.flatMap_append

-- the next two by rewriting, not `rfl`: a `[] ++ xmlHeader` left by a rfl-lemma makes the kernel evaluate the string
theorem bodyOf_wh (c : Int) (l : List Ev) : bodyOf (.wh c :: l) = bodyOf l := by
  rw [bodyOf, List.flatMap_cons, body_wh, List.nil_append, bodyOf]

theorem bodyOf_w (b : Bytes) (e : Bool) (l : List Ev) : bodyOf (.w b b.length e :: l) = b ++ bodyOf l := by
  rw [bodyOf, List.flatMap_cons, Ev.body, List.take_length, bodyOf]

theorem specBody_append (a b : List Op) : specBody (a ++ b) = specBody a ++ specBody b :=
  List.flatMap_append

/-! ### net/http.Redirect, case by case -/

theorem redirectOps_get_noct (code : Int) (body : Bytes) (acc : Nat) (err : Bool) :
    redirectOps .get false code body acc err =
      [.setHeader, .setCT ctTextHtml, .setStatus code, .write body acc err] := rfl

theorem redirectOps_head_noct (code : Int) (body : Bytes) (acc : Nat) (err : Bool) :
    redirectOps .head false code body acc err = [.setHeader, .setCT ctTextHtml, .setStatus code] := rfl

theorem redirectOps_other_noct (code : Int) (body : Bytes) (acc : Nat) (err : Bool) :
    redirectOps .other false code body acc err = [.setHeader, .setStatus code] := rfl

theorem redirectOps_ct (m : Meth) (code : Int) (body : Bytes) (acc : Nat) (err : Bool) :
    redirectOps m true code body acc err = [.setHeader, .setStatus code] := by
  cases m <;> rfl

theorem redirectOps_nobody {m : Meth} {ct : Option Bytes} (h : m ≠ .get ∨ ct ≠ none) (code : Int) (body : Bytes)
    (acc : Nat) (err : Bool) :
    redirectOps m ct.isSome code body acc err =
      .setHeader :: (if ct = none ∧ m = .head then [.setCT ctTextHtml] else []) ++ [.setStatus code] := by
  cases ct with
  | some v => simp [redirectOps_ct]
  | none =>
    cases m with
    | get => simp at h
    | head => simp [redirectOps_head_noct]
    | other => simp [redirectOps_other_noct]

theorem write_ctype (s : St) (b : Bytes) : (write s b).st.w.ctype = s.w.ctype := by
  fun_cases write s b <;> exact step_write_ctype _ _ _ _

theorem write_errs (s : St) (b : Bytes) : (write s b).st.errs = s.errs := by
  fun_cases write s b <;> rfl

theorem write_nil (s : St) (b : Bytes) (h : s.script = []) :
    write s b = ⟨{ s with w := step s.w (.write b b.length false) }, false, false⟩ := by
  unfold write; rw [h]

/-! ### a helper on an uncommitted writer

  After `setStatus st` and the Content-Type decision the writer is `⟨if st > 0 then st else cur, -1, c, snt, log⟩`:
  what the end of the request, the first write and a later write make of it. -/

theorem commitCode_eq (st cur : Int) :
    norm (if st > 0 then st else cur) = commitCode st cur := by
  fun_cases commitCode st cur with
  | case1 h => rw [if_pos h]; exact norm_pos st h
  | case2 h h0 => rw [if_neg h]; exact if_pos h0
  | case3 h h0 => rw [if_neg h]; exact if_neg h0

section
variable (st cur : Int) (n : Nat) (c : Option Bytes) (snt : Option (Option Bytes)) (log : List Ev)
  (b : Bytes) (acc : Nat) (err : Bool)

theorem commit_eq :
    ensure ⟨if st > 0 then st else cur, -1, c, snt, log⟩ =
      ⟨commitCode st cur, 0, c, some c, log ++ [.wh (commitCode st cur)]⟩ := by
  rw [ensure_uncommitted _ rfl]
  simp only [commitCode_eq]

theorem first_write :
    step ⟨if st > 0 then st else cur, -1, c, snt, log⟩ (.write b acc err) =
      ⟨commitCode st cur, acc, c, some c, log ++ [.wh (commitCode st cur), .w b acc err]⟩ := by
  simp [step, commit_eq]

theorem next_write :
    step ⟨st, n, c, snt, log⟩ (.write b acc err) = ⟨st, (n + acc : Nat), c, snt, log ++ [.w b acc err]⟩ := by
  simp [step, ensure_committed]

end

/-! ### pkg/render: the Content-Type a renderer leaves

  On every path a renderer is one `setCTIfAbsent` followed by writes, and a write keeps the Content-Type.
  (`+zetaDelta`: `fun_cases` brings the states in between as local definitions.) -/

theorem keepCT_none (d : Bytes) : keepCT none d = some d := rfl

theorem keepCT_some (v d : Bytes) : keepCT (some v) d = some v := rfl

theorem op_setCTIfAbsent_ctype (s : St) (v : Bytes) :
    (s.op (.setCTIfAbsent v)).w.ctype = keepCT s.w.ctype v := by
  rw [St.op, step_setCTIfAbsent]; rfl

theorem rBlob_ctype (ct data : Bytes) (s : St) : (rBlob ct data s).1.w.ctype = keepCT s.w.ctype ct := by
  fun_cases rBlob ct data s <;> simp +zetaDelta only [write_ctype, op_setCTIfAbsent_ctype]

theorem rJSON_ctype (e : Enc) (s : St) : (rJSON e s).1.w.ctype = keepCT s.w.ctype ctJSON := by
  fun_cases rJSON e s <;> simp +zetaDelta only [write_ctype, op_setCTIfAbsent_ctype]

theorem rJSONP_ctype (cb : Bytes) (e : Enc) (s : St) :
    (rJSONP cb e s).1.w.ctype = keepCT s.w.ctype ctJSONP := by
  fun_cases rJSONP cb e s <;> simp +zetaDelta only [write_ctype, op_setCTIfAbsent_ctype]

theorem rXML_ctype (e : Enc) (s : St) : (rXML e s).1.w.ctype = keepCT s.w.ctype ctXML := by
  fun_cases rXML e s <;> simp +zetaDelta only [write_ctype, op_setCTIfAbsent_ctype]

theorem rView_ctype (s : St) : (rView s).1.w.ctype = keepCT s.w.ctype ctHTML :=
  op_setCTIfAbsent_ctype s ctHTML

theorem rJSONP_error (cb : Bytes) (s : St) :
    rJSONP cb .error s = ((write (s.op (.setCTIfAbsent ctJSONP)) (cb ++ [40])).st, true) := by
  simp only [rJSONP]
  split <;> rfl

theorem rXML_error (s : St) : rXML .error s = ((write (s.op (.setCTIfAbsent ctXML)) xmlHeader).st, true) := by
  simp only [rXML]
  split <;> rfl

theorem autoLoop_eq (v : Val) (es : Encs) (s : St) (l : List Bytes) :
    autoLoop v es s l = (l.findSome? kindOf).map (fun k => rKind k v es s) := by
  fun_induction autoLoop v es s l with
  | case1 => rfl
  | case2 t rest k hk => rw [List.findSome?_cons, hk]; rfl
  | case3 t rest hk ih => rw [List.findSome?_cons, hk, ih]

theorem kindOf_table : kindOf mimeJSON = some .json ∧ kindOf mimeHTML = some .html ∧
    kindOf mimeText = some .text ∧ kindOf mimeXML = some .xml ∧ kindOf mimeXML2 = some .xml := by
  decide +kernel

/-! ### Stream -/

/-- the writes `io.Copy` performs when the underlying writer accepts everything -/
def copyOps : List (Bytes × RErr) → List Op
  | [] => []
  | (d, re) :: rest =>
    (if d.isEmpty then [] else [Op.write d d.length false]) ++
    (match re with
     | .none => copyOps rest
     | _ => [])

theorem copy_run (reads : List (Bytes × RErr)) : ∀ s : St, s.script = [] →
    copy reads s = ({ s with w := run s.w (copyOps reads) }, !readsOk reads) := by
  induction reads with
  | nil => intro s _; rfl
  | cons r rest ih =>
    intro s hs
    obtain ⟨d, re⟩ := r
    have hw : (if d.isEmpty then (⟨s, false, false⟩ : WRes) else write s d) =
        ⟨{ s with w := run s.w (if d.isEmpty then [] else [.write d d.length false]) }, false, false⟩ := by
      split
      · rfl
      · rw [write_nil s d hs]; rfl
    simp only [copy, hw, copyOps, run_append]
    cases re with
    | none => exact ih _ hs
    | eof => rfl
    | fail => rfl

theorem copyOps_io (reads : List (Bytes × RErr)) : ∀ o ∈ copyOps reads, o.isIO = true := by
  induction reads with
  | nil => intro o h; cases h
  | cons r rest ih =>
    obtain ⟨d, re⟩ := r
    intro o h
    rcases List.mem_append.mp h with h | h
    · split at h
      · cases h
      · rw [List.mem_singleton.mp h]; rfl
    · cases re with
      | none => exact ih o h
      | eof => cases h
      | fail => cases h

theorem specBody_copyOps (reads : List (Bytes × RErr)) : specBody (copyOps reads) = streamData reads := by
  induction reads with
  | nil => rfl
  | cons r rest ih =>
    obtain ⟨d, re⟩ := r
    have hd : specBody (if d.isEmpty then [] else [Op.write d d.length false]) = d := by
      cases d <;> simp [specBody, Op.bodyPart]
    cases re <;> simp only [copyOps, specBody_append, hd, streamData, ih]
    · exact List.append_nil d
    · exact List.append_nil d

end Render
end Rux
