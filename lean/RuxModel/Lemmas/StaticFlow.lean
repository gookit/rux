import RuxModel.Lemmas.Clean
/-
  Lemmas about the static-file flow of Model/Clean.lean, for Props/C17.lean: what http.Dir.Open resolves a name to
  (`dirOpen_full`), which paths serveFile opens, what the route captures, and from these what FileServer and
  http.ServeFile open and serve for a mount.
-/
namespace Rux
namespace Clean
open Bytes

/-! ### http.Dir.Open -/

/-- Dir.Open's "." for the empty relative name pushes nothing, like the empty name -/
theorem foldSegs_ite_dot (stk : List Bytes) (x : Bytes) :
    foldSegs stk (if x = [] then [dot] else x) = foldSegs stk x := by
  split
  · rename_i h; rw [h]; rfl
  · rfl

/-- the path `http.Dir(d).Open(name)` opens is `Clean(d)` followed by the elements of `Clean("/"+name)` -/
theorem dirOpen_full {d' name full : Bytes} (h : dirOpen (slash :: d') name = some full) :
    full = render (cleanSegs d' ++ cleanSegs name) := by
  simp only [dirOpen, Option.ite_none_right_eq_some, Option.some.injEq] at h
  obtain ⟨_, rfl⟩ := h
  show render (cleanSegs (d' ++ slash :: _)) = _
  rw [cleanSegs_eq, foldSegs_append_sep, foldSegs_ite_dot, cleanRooted,
    foldSegs_render_drop (cleanSegs_proper name), cleanSegs_eq, cleanSegs_eq]
  simp

theorem dirOpen_under {d' name full : Bytes} (h : dirOpen (slash :: d') name = some full) :
    Under (slash :: d') full :=
  ⟨cleanSegs name, cleanSegs_proper name, by simpa using dirOpen_full h⟩

/-! ### serveFile -/

-- here `r` with `hr : … = r` names the response so that the statements need not repeat the call; uses pass `_ rfl`
theorem serveDirectory_opened (look : Bytes → Node) (dir name full : Bytes) (r : Resp)
    (hr : serveDirectory look dir name full = r) :
    (∀ p ∈ r.opened, p = full ∨ dirOpen dir (trimSuffix name [slash] ++ indexPage) = some p) ∧
    (∀ k, r.served = .file k ∨ r.served = .listing k → k ∈ r.opened) := by
  subst hr
  fun_cases serveDirectory look dir name full <;> simp +zetaDelta [*]   -- `+zetaDelta` for the `let index`

theorem serveFile_cases (look : Bytes → Node) (dir urlPath name : Bytes) (redirect : Bool) (r : Resp)
    (hr : serveFile look dir urlPath name redirect = r) :
    (∃ full, dirOpen dir name = some full ∧ look full = .dir ∧ lastByte urlPath = some slash ∧
      r = serveDirectory look dir name full) ∨
    ((∀ p ∈ r.opened, dirOpen dir name = some p) ∧ (∀ k, r.served = .file k → k ∈ r.opened) ∧
      ∀ k, r.served ≠ .listing k) := by
  subst hr
  fun_cases serveFile look dir urlPath name redirect
  case case5 full hfull hdir hs => exact Or.inl ⟨full, hfull, hdir, Decidable.not_not.mp hs, rfl⟩
  all_goals right; simp [*]

theorem serveFile_opened (look : Bytes → Node) (dir urlPath name : Bytes) (redirect : Bool) (r : Resp)
    (hr : serveFile look dir urlPath name redirect = r) :
    (∀ p ∈ r.opened, dirOpen dir name = some p ∨ dirOpen dir (trimSuffix name [slash] ++ indexPage) = some p) ∧
    (∀ k, r.served = .file k ∨ r.served = .listing k → k ∈ r.opened) := by
  rcases serveFile_cases look dir urlPath name redirect r hr with ⟨full, hfull, _, _, hd⟩ | ⟨h1, h2, h3⟩
  · obtain ⟨h1, h2⟩ := serveDirectory_opened look dir name full r hd.symm
    refine ⟨fun p hp => ?_, h2⟩
    rcases h1 p hp with h | h
    · exact Or.inl (h ▸ hfull)
    · exact Or.inr h
  · exact ⟨fun p hp => Or.inl (h1 p hp), fun k hk => hk.elim (h2 k) (fun h => absurd h (h3 k))⟩

/-! ### the route -/

theorem capture_some (pfx : Bytes) (exts : Option (List Bytes)) (p v : Bytes)
    (h : capture pfx exts p = some v) :
    p = routeStatic pfx ++ v ∧ v ≠ [] ∧ extsOk exts v = true := by
  revert h
  fun_cases capture pfx exts p
  case case1 hp _ hv =>
    intro h
    obtain ⟨t, ht⟩ := (hasPrefix_iff _ _).mp hp
    exact Option.some.inj h ▸ ⟨by simp +zetaDelta [ht], hv.1, hv.2.2⟩   -- `+zetaDelta` for the `let v`
  all_goals exact nofun

theorem extMatch_iff (v e : Bytes) : extMatch v e = true ↔ ∃ x, x ≠ [] ∧ v = x ++ dot :: e := by
  unfold extMatch
  rw [Bool.and_eq_true, hasSuffix_iff, decide_eq_true_eq]
  constructor
  · rintro ⟨⟨y, rfl⟩, hl⟩
    refine ⟨y, ?_, rfl⟩
    intro e0; subst e0; simp at hl
  · rintro ⟨x, hx, rfl⟩
    refine ⟨⟨x, rfl⟩, ?_⟩
    rw [List.length_append, List.length_cons]
    exact Nat.lt_add_of_pos_left (List.length_pos_iff.mpr hx)

/-! ### FileServer and the handlers -/

theorem fileServer_opened (look : Bytes → Node) (d' upath0 : Bytes) :
    (∀ p ∈ (fileServer look (slash :: d') upath0).opened, Under (slash :: d') p) ∧
    (∀ k, (fileServer look (slash :: d') upath0).served = .file k ∨
          (fileServer look (slash :: d') upath0).served = .listing k →
          k ∈ (fileServer look (slash :: d') upath0).opened) := by
  unfold fileServer
  obtain ⟨h1, h2⟩ := serveFile_opened look _ _ _ true _ rfl
  exact ⟨fun p hp => (h1 p hp).elim dirOpen_under dirOpen_under, h2⟩

theorem serve_cases (look : Bytes → Node) (m : Mount) (q : Req) (hk : m.kind ≠ .file) :
    ((serve look m q).status = 404 ∧ (serve look m q).opened = [] ∧ (serve look m q).served = .nothing) ∨
    ∃ u, serve look m q = fileServer look m.target u := by
  fun_cases serve look m q
  -- 3, 6, 8: the route of a dir, fs, files mount has captured; 9, 10: a file mount
  case case3 | case6 | case8 => exact Or.inr ⟨_, rfl⟩
  case case9 | case10 => contradiction
  all_goals left; simp

theorem serve_files_cases (look : Bytes → Node) (m : Mount) (q : Req) (hk : m.kind = .files) :
    serve look m q = { status := 404 } ∨
    ∃ x e, x ≠ [] ∧ e ∈ m.exts ∧
      formatPath m.strict (if m.enc then q.esc else q.path) = routeStatic m.pfx ++ (x ++ dot :: e) ∧
      serve look m q = fileServer look m.target (x ++ dot :: e) := by
  fun_cases serve look m q
  case case7 => exact Or.inl rfl
  case case8 v hv =>
    obtain ⟨hp, _, hext⟩ := capture_some _ _ _ _ hv
    simp only [extsOk, List.any_eq_true] at hext
    obtain ⟨e, hmem, hm⟩ := hext
    obtain ⟨x, hx, rfl⟩ := (extMatch_iff v e).mp hm
    exact Or.inr ⟨x, e, hx, hmem, hp, rfl⟩
  all_goals simp [hk] at *   -- a mount of another kind

theorem serve_file_cases (look : Bytes → Node) (m : Mount) (q : Req) (hk : m.kind = .file) :
    serve look m q = { status := 404 } ∨ serve look m q = httpServeFile look q.path m.target := by
  fun_cases serve look m q
  case case9 => exact Or.inr rfl
  case case10 => exact Or.inl rfl
  all_goals simp [hk] at *

theorem lastByte_ext (x e : Bytes) (hs : slash ∉ e) : lastByte (x ++ dot :: e) ≠ some slash := by
  rw [lastByte, List.getLast?_append, List.getLast?_cons, Option.some_or]
  cases h : e.getLast? with
  | none => decide
  | some z => exact fun hz => hs (Option.some.inj hz ▸ List.mem_of_getLast? h)

theorem fileServer_ext (look : Bytes → Node) (d' x e : Bytes) (hx : x ≠ [])
    (he : e ≠ []) (hd : e ≠ [dot]) (hs : slash ∉ e) :
    (∀ k, (fileServer look (slash :: d') (x ++ dot :: e)).served = .file k → ∃ y, k = y ++ dot :: e) ∧
    (∀ k, (fileServer look (slash :: d') (x ++ dot :: e)).served ≠ .listing k) := by
  -- the URL path the file server works with is "/" ++ x' ++ "." ++ e for some x'
  have hw : ∃ x', (if hasPrefix (x ++ dot :: e) [slash] then x ++ dot :: e else slash :: (x ++ dot :: e))
      = slash :: (x' ++ dot :: e) := by
    cases x with
    | nil => exact absurd rfl hx
    | cons a x' =>
      by_cases ha : a = slash
      · exact ⟨x', by simp [hasPrefix, ha]⟩
      · exact ⟨a :: x', by simp [hasPrefix, ha]⟩
  obtain ⟨x', hu⟩ := hw
  unfold fileServer
  rw [hu]
  rcases serveFile_cases look (slash :: d') (slash :: (x' ++ dot :: e)) _ true _ rfl
    with ⟨_, _, _, hl, _⟩ | ⟨h1, h2, h3⟩
  · exact absurd hl (lastByte_ext (slash :: x') e hs)
  refine ⟨?_, h3⟩
  intro k hk
  have hfull := dirOpen_full (h1 k (h2 k hk))
  have hname : cleanSegs (cleanAbs (slash :: (x' ++ dot :: e))) = cleanSegs (x' ++ dot :: e) :=
    cleanSegs_render (cleanSegs_proper _)   -- `cleanAbs ('/' :: t)` is `render (cleanSegs t)` by definition
  obtain ⟨A, qq, hA⟩ := cleanSegs_ext x' e he hd hs
  rw [hname, hA, ← List.append_assoc, render_append_singleton] at hfull
  exact ⟨renderRel (cleanSegs d' ++ A) ++ slash :: qq, by rw [hfull]; simp⟩

/-! ### filepath.Split and ServeFile on a clean absolute file name -/

theorem splitLast_append (d z : Bytes) (hz : slash ∉ z) : splitLast (d ++ slash :: z) = (d ++ [slash], z) := by
  unfold splitLast
  rw [split_append_sep, split_of_noSep slash z hz, List.getLast?_concat]
  have : d ++ slash :: z = (d ++ [slash]) ++ z := (List.append_assoc d [slash] z).symm
  simp only [this, List.length_append, Nat.add_sub_cancel, List.take_left']

theorem trimSuffix_noSlash (z : Bytes) (hz : slash ∉ z) : trimSuffix z [slash] = z := by
  fun_cases trimSuffix z [slash]
  case case1 h =>
    obtain ⟨y, hy⟩ := (hasSuffix_iff _ _).mp h
    exact absurd (by rw [hy]; simp) hz
  case case2 => rfl

/-- for a clean absolute file name F = "/e1/…/en" (n ≥ 1): `http.Dir(dir).Open(file)` with
    `dir, file = filepath.Split(F)` opens F, and the index page of F is F ++ "/index.html" -/
theorem singleFile_open (init : List Bytes) (z : Bytes) (hi : AllProper init) (hz : Proper z) (p : Bytes) :
    (dirOpen (renderRel init ++ [slash]) z = some p → p = render (init ++ [z])) ∧
    (dirOpen (renderRel init ++ [slash]) (trimSuffix z [slash] ++ indexPage) = some p →
      p = render (init ++ [z]) ++ indexPage) := by
  obtain ⟨d', hd1, hd2⟩ := cleanSegs_dir_of init hi
  rw [hd1]
  constructor
  · intro h
    rw [dirOpen_full h, hd2, cleanSegs_of_proper z hz]
  · intro h
    have hix : Proper indexPage.tail := by decide
    rw [trimSuffix_noSlash z hz.2.2.2] at h
    rw [dirOpen_full h, hd2, show indexPage = slash :: indexPage.tail from rfl, cleanSegs_eq, foldSegs_append_sep,
      foldSegs_of_proper hz, foldSegs_of_proper hix]
    have : init ++ [indexPage.tail, z].reverse = (init ++ [z]) ++ [indexPage.tail] :=
      (List.append_assoc init [z] _).symm
    rw [this, render_append_singleton, render_of_ne_nil (by simp)]

theorem httpServeFile_render (look : Bytes → Node) (url : Bytes) (init : List Bytes) (z : Bytes)
    (hz : slash ∉ z) :
    httpServeFile look url (render (init ++ [z])) =
      if containsDotDot url then { status := 400 }
      else serveFile look (renderRel init ++ [slash]) url z false := by
  unfold httpServeFile
  rw [render_append_singleton, splitLast_append _ z hz]

theorem httpServeFile_single (look : Bytes → Node) (url : Bytes) (init : List Bytes) (z : Bytes)
    (hi : AllProper init) (hz : Proper z) :
    (∀ p ∈ (httpServeFile look url (render (init ++ [z]))).opened,
        p = render (init ++ [z]) ∨ p = render (init ++ [z]) ++ indexPage) ∧
    (∀ k, (httpServeFile look url (render (init ++ [z]))).served = .file k ∨
          (httpServeFile look url (render (init ++ [z]))).served = .listing k →
          k ∈ (httpServeFile look url (render (init ++ [z]))).opened) := by
  rw [httpServeFile_render look url init z hz.2.2.2]
  by_cases hdd : containsDotDot url = true
  · rw [if_pos hdd]; simp
  · rw [if_neg hdd]
    obtain ⟨h1, h2⟩ := serveFile_opened look (renderRel init ++ [slash]) url z false _ rfl
    exact ⟨fun p hp => (h1 p hp).imp (singleFile_open init z hi hz p).1 (singleFile_open init z hi hz p).2, h2⟩

theorem httpServeFile_regular (look : Bytes → Node) (url : Bytes) (init : List Bytes) (z : Bytes)
    (hi : AllProper init) (hz : Proper z) (hfile : look (render (init ++ [z])) = .file) :
    (∀ p ∈ (httpServeFile look url (render (init ++ [z]))).opened, p = render (init ++ [z])) ∧
    (∀ k, (httpServeFile look url (render (init ++ [z]))).served = .file k → k = render (init ++ [z])) ∧
    (∀ k, (httpServeFile look url (render (init ++ [z]))).served ≠ .listing k) := by
  rw [httpServeFile_render look url init z hz.2.2.2]
  by_cases hdd : containsDotDot url = true
  · rw [if_pos hdd]; simp
  · rw [if_neg hdd]
    have hopen := fun full => (singleFile_open init z hi hz full).1
    rcases serveFile_cases look (renderRel init ++ [slash]) url z false _ rfl with
      ⟨full, hfull, hdir, _⟩ | ⟨h1, h2, h3⟩
    · rw [hopen full hfull, hfile] at hdir; cases hdir
    · exact ⟨fun p hp => hopen p (h1 p hp), fun k hk => hopen k (h1 k (h2 k hk)), h3⟩

end Clean
end Rux
