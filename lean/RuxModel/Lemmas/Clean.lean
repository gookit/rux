import RuxModel.Model.Clean
import RuxModel.Lemmas.Bytes
/-
  Lemmas about path.Clean (Model/Clean.lean) for Props/C17.lean.  Clean is a fold of `push` over the elements
  (`foldSegs`), which can be computed piece by piece at any slash (`foldSegs_append_sep`).
-/
namespace Rux
namespace Clean
open Bytes

/-! ### the predicates the C17 statements are written in -/

def AllProper (l : List Bytes) : Prop := ∀ s ∈ l, Proper s

/-- `p` is `Clean(root)` followed by zero or more proper elements (non-empty, no '/', not "." / "..") -/
def Under (root p : Bytes) : Prop := ∃ l, AllProper l ∧ p = render (cleanSegs (root.drop 1) ++ l)

/-! ### the element stack -/

theorem allProper_nil : AllProper [] := nofun

theorem allProper_tail {l : List Bytes} (h : AllProper l) : AllProper l.tail := by
  intro s hs; exact h s (List.mem_of_mem_tail hs)

theorem allProper_append {a b : List Bytes} (ha : AllProper a) (hb : AllProper b) : AllProper (a ++ b) :=
  List.forall_mem_append.2 ⟨ha, hb⟩

theorem allProper_reverse {l : List Bytes} (h : AllProper l) : AllProper l.reverse := by
  intro s hs; exact h s (List.mem_reverse.mp hs)

theorem push_of_proper (stk : List Bytes) (seg : Bytes) (h : Proper seg) : push stk seg = seg :: stk := by
  unfold push
  rw [if_neg h.1, if_neg h.2.1, if_neg h.2.2.1]

theorem push_proper (stk : List Bytes) (seg : Bytes) (h : AllProper stk) (hs : slash ∉ seg) :
    AllProper (push stk seg) := by
  fun_cases push stk seg
  case case3 => exact allProper_tail h
  case case4 h1 h2 h3 => exact List.forall_mem_cons.2 ⟨⟨h1, h2, h3, hs⟩, h⟩
  all_goals exact h

/-- the element stack after processing the elements of `s` -/
def foldSegs (stk : List Bytes) (s : Bytes) : List Bytes := (splitOnByte slash s).foldl push stk

theorem cleanSegs_eq (s : Bytes) : cleanSegs s = (foldSegs [] s).reverse := rfl

theorem foldSegs_nil (stk : List Bytes) : foldSegs stk [] = stk := rfl

theorem foldSegs_append_sep (stk : List Bytes) (x y : Bytes) :
    foldSegs stk (x ++ slash :: y) = foldSegs (foldSegs stk x) y := by
  unfold foldSegs
  rw [split_append_sep, List.foldl_append]

theorem foldSegs_cons_slash (stk : List Bytes) (y : Bytes) : foldSegs stk (slash :: y) = foldSegs stk y :=
  foldSegs_append_sep stk [] y

/-- `Clean(p)` and `Clean("/" ++ p)` agree for a `p` that begins with '/' -/
theorem cleanAbs_cons_slash (t : Bytes) : cleanAbs (slash :: t) = cleanRooted (slash :: t) := by
  simp only [cleanAbs, cleanRooted, cleanSegs_eq, List.drop_succ_cons, List.drop_zero, foldSegs_cons_slash]

theorem foldSegs_of_proper {stk : List Bytes} {seg : Bytes} (h : Proper seg) : foldSegs stk seg = seg :: stk := by
  rw [foldSegs, split_of_noSep slash seg h.2.2.2]
  exact push_of_proper stk seg h

theorem cleanSegs_of_proper (z : Bytes) (hz : Proper z) : cleanSegs z = [z] := by
  rw [cleanSegs_eq, foldSegs_of_proper hz]; rfl

theorem foldSegs_proper (stk : List Bytes) (s : Bytes) (h : AllProper stk) : AllProper (foldSegs stk s) :=
  List.foldlRecOn _ push h fun stk h seg m => push_proper stk seg h (split_noSep slash s seg m)

theorem cleanSegs_proper (s : Bytes) : AllProper (cleanSegs s) :=
  allProper_reverse (foldSegs_proper [] s allProper_nil)

/-! ### rendering -/

theorem renderRel_nil : renderRel [] = [] := rfl

theorem renderRel_cons (a : Bytes) (l : List Bytes) : renderRel (a :: l) = slash :: (a ++ renderRel l) := rfl

theorem renderRel_append (a b : List Bytes) : renderRel (a ++ b) = renderRel a ++ renderRel b :=
  List.flatMap_append

theorem render_of_ne_nil {l : List Bytes} (h : l ≠ []) : render l = renderRel l := by
  cases l with
  | nil => exact absurd rfl h
  | cons a t => rfl

/-- as a `rw` rule it exposes the leading slash once (`rw` abstracts `render l` before it rewrites) -/
theorem render_eq_cons (l : List Bytes) : render l = slash :: (render l).drop 1 := by
  cases l <;> rfl

theorem render_append_singleton (A : List Bytes) (z : Bytes) :
    render (A ++ [z]) = renderRel A ++ slash :: z := by
  rw [render_of_ne_nil (by simp), renderRel_append]
  simp [renderRel]

theorem split_renderRel (a : Bytes) (l : List Bytes) (ha : slash ∉ a) (hl : ∀ s ∈ l, slash ∉ s) :
    splitOnByte slash (a ++ renderRel l) = a :: l := by
  induction l generalizing a with
  | nil => simpa [renderRel] using split_of_noSep slash a ha
  | cons b t ih =>
    obtain ⟨hb, ht⟩ := List.forall_mem_cons.1 hl
    rw [renderRel_cons, split_append_sep, split_of_noSep slash a ha, ih b hb ht]
    rfl

/-! ### Clean of a rendered list -/

theorem foldSegs_append_renderRel {l : List Bytes} (h : AllProper l) (stk : List Bytes) (x : Bytes) :
    foldSegs stk (x ++ renderRel l) = l.reverse ++ foldSegs stk x := by
  induction l generalizing stk x with
  | nil => rw [renderRel_nil, List.append_nil]; rfl
  | cons a t ih =>
    obtain ⟨ha, ht⟩ := List.forall_mem_cons.1 h
    rw [renderRel_cons, foldSegs_append_sep, ih ht, foldSegs_of_proper ha]
    simp

theorem foldSegs_renderRel {l : List Bytes} (h : AllProper l) (stk : List Bytes) :
    foldSegs stk (renderRel l) = l.reverse ++ stk :=
  foldSegs_append_renderRel h stk []

theorem foldSegs_render_drop {l : List Bytes} (h : AllProper l) (stk : List Bytes) :
    foldSegs stk ((render l).drop 1) = l.reverse ++ stk := by
  cases l with
  | nil => rfl
  | cons a t => exact (foldSegs_cons_slash stk _).symm.trans (foldSegs_renderRel h stk)

/-- `Clean("/" ++ p) = p` for a clean rooted `p` -/
theorem cleanSegs_render {l : List Bytes} (h : AllProper l) : cleanSegs (render l) = l := by
  rw [render_eq_cons, cleanSegs_eq, foldSegs_cons_slash, foldSegs_render_drop h]
  simp

/-- `Clean(p) = p` for a clean rooted `p` -/
theorem cleanSegs_render_drop {l : List Bytes} (h : AllProper l) : cleanSegs ((render l).drop 1) = l := by
  rw [cleanSegs_eq, foldSegs_render_drop h]; simp

/-- the directory half "/e1/…/ek/" that `filepath.Split` returns is rooted and cleans to the `ei` -/
theorem cleanSegs_dir_of (init : List Bytes) (hp : AllProper init) :
    ∃ d', renderRel init ++ [slash] = slash :: d' ∧ cleanSegs d' = init := by
  cases init with
  | nil => exact ⟨[], rfl, rfl⟩
  | cons a t =>
    refine ⟨a ++ renderRel t ++ [slash], rfl, ?_⟩
    rw [cleanSegs_eq, foldSegs_append_sep, foldSegs_nil, ← foldSegs_cons_slash, ← renderRel_cons,
      foldSegs_renderRel hp]
    simp

/-- for a clean root other than "/", "under" is literally `root ++ "/e1/e2…"` -/
theorem under_clean_root (r : List Bytes) (hr : r ≠ []) (hp : AllProper r) (p : Bytes) :
    Under (render r) p ↔ ∃ l, AllProper l ∧ p = render r ++ renderRel l := by
  have e : ∀ l, render (r ++ l) = render r ++ renderRel l := fun l => by
    rw [render_of_ne_nil (List.append_ne_nil_of_left_ne_nil hr l), render_of_ne_nil hr, renderRel_append]
  simp only [Under, cleanSegs_render_drop hp, e]

/-! ### the last element -/

theorem cleanSegs_last (s z : Bytes) (hz : Proper z) (init : List Bytes)
    (h : splitOnByte slash s = init ++ [z]) : ∃ A, cleanSegs s = A ++ [z] := by
  refine ⟨(init.foldl push []).reverse, ?_⟩
  rw [cleanSegs, h, List.foldl_append, List.foldl_cons, List.foldl_nil, push_of_proper _ z hz, List.reverse_cons]

theorem last_field (c : Nat) (x : Bytes) : ∃ y last, c ∉ last ∧ (x = last ∨ x = y ++ c :: last) := by
  by_cases h : c ∈ x
  · obtain ⟨as, bs, e, has⟩ := List.eq_append_cons_of_mem (List.mem_reverse.2 h)
    exact ⟨bs.reverse, as.reverse, by simpa using has, .inr (by simpa using congrArg List.reverse e)⟩
  · exact ⟨[], x, h, .inl rfl⟩

theorem cleanSegs_ext (x e : Bytes) (he : e ≠ []) (hd : e ≠ [dot]) (hs : slash ∉ e) :
    ∃ A q, cleanSegs (x ++ dot :: e) = A ++ [q ++ dot :: e] := by
  -- the text after the last slash of `x`, with the extension, is proper: not "." as `e ≠ ""`, not ".." as `e ≠ "."`
  have key : ∀ stk last, slash ∉ last → foldSegs stk (last ++ dot :: e) = (last ++ dot :: e) :: stk :=
    fun stk last hl => foldSegs_of_proper
      (by simp [Proper, List.append_eq_cons_iff, List.cons_eq_append_iff, he, hd, hl, hs])
  obtain ⟨y, last, hl, h | h⟩ := last_field slash x
  · exact ⟨[], last, by rw [h, cleanSegs_eq, key _ _ hl]; rfl⟩
  · exact ⟨(foldSegs [] y).reverse, last, by
      rw [h, cleanSegs_eq, List.append_assoc, List.cons_append, foldSegs_append_sep, key _ _ hl]; simp⟩

end Clean
end Rux
