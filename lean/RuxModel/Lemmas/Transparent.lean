import RuxModel.Model.Quick
import RuxModel.Lemmas.Cache
import RuxModel.Lemmas.Table
/-
  The cache is transparent: `matchM`, `findAllowed`, `QuickMatch` with a coherent cache answer exactly
  the stateless specification (`lookupPure`, `allowedPure`, `quickPure`), keep the tables and keep the
  cache coherent; lifted to request histories.
-/
namespace Rux

/-- at most the cache and the route counter differ -/
structure SameTables (a b : RouterM) : Prop where
  opts : b.opts = a.opts
  stable : b.stable = a.stable
  regular : b.regular = a.regular
  irregular : b.irregular = a.irregular

/-- the cache holds only what the pure lookup returns -/
def CacheOK (rt : RouterM) : Prop := Cache.Coherent (dynK rt) rt.cache

/-- serve a history of requests, threading the router (i.e. the cache) through -/
def runQuick (rt : RouterM) : List (Bytes × Bytes) → List Obs
  | [] => []
  | mp :: h => (quickMatch rt mp.1 mp.2).1.obs :: runQuick (quickMatch rt mp.1 mp.2).2 h

theorem SameTables.refl (a : RouterM) : SameTables a a := ⟨rfl, rfl, rfl, rfl⟩

theorem SameTables.trans {a b c : RouterM} (h1 : SameTables a b) (h2 : SameTables b c) : SameTables a c :=
  ⟨h2.opts.trans h1.opts, h2.stable.trans h1.stable, h2.regular.trans h1.regular, h2.irregular.trans h1.irregular⟩

/-! ### the stateless functions read only the tables -/
section
variable {a b : RouterM} (h : SameTables a b) (m p : Bytes)
include h

theorem lookupPure_same : lookupPure b m p = lookupPure a m p := by
  unfold lookupPure dynMatch regTier irrTier
  rw [h.stable, h.regular, h.irregular]

theorem tailPure_same : tailPure b m p = tailPure a m p := by
  unfold tailPure allowedPure
  simp only [h.opts, h.stable, lookupPure_same h]

theorem headPure_same : headPure b m p = headPure a m p := by
  unfold headPure; rw [lookupPure_same h, tailPure_same h]

theorem quickPure_same : quickPure b m p = quickPure a m p := by
  unfold quickPure
  simp only [h.opts, lookupPure_same h, headPure_same h]

end

namespace Tie

/-- the model's accumulator step of `findAllowed` -/
def faStep (method path : Bytes) (acc : List Bytes × RouterM) (m : Bytes) : List Bytes × RouterM :=
  if m = method then acc
  else
    let (res, rt') := matchM acc.2 m path
    (if res.isSome then acc.1 ++ [m] else acc.1, rt')

theorem findAllowed_eq (rt : RouterM) (method path : Bytes) :
    findAllowed rt method path = anyMethodsB.foldl (faStep method path) ([], rt) := rfl

end Tie

section
variable (rt : RouterM) (method path : Bytes)

theorem matchM_dyn (hs : alistGet rt.stable (method ++ path) = none) :
    matchM rt method path =
      let g := if rt.opts.caching then rt.cache.get (method ++ path) else (none, rt.cache)
      match g.1 with
      | some (r, ps) => (some (r, ps, true), { rt with cache := g.2 })
      | none =>
        match dynMatch rt method path with
        | some (r, ps) =>
          (some (r, ps, false), { rt with cache := if rt.opts.caching then g.2.set (method ++ path) (r, ps) else g.2 })
        | none => (none, { rt with cache := g.2 }) := by
  unfold matchM
  rw [hs]
  rfl

/-! ### the model functions change at most the cache -/

theorem matchM_tables : SameTables rt (matchM rt method path).2 := by
  fun_cases matchM rt method path <;> exact ⟨rfl, rfl, rfl, rfl⟩

theorem faStep_tables (acc : List Bytes × RouterM) (m : Bytes) : SameTables acc.2 (Tie.faStep method path acc m).2 := by
  fun_cases Tie.faStep method path acc m with
  | case1 => exact .refl _
  | case2 _ res rt' hm => have h := matchM_tables acc.2 m path; rwa [hm] at h

theorem findAllowed_tables : SameTables rt (findAllowed rt method path).2 :=
  List.foldlRecOn (motive := fun acc : List Bytes × RouterM => SameTables rt acc.2) anyMethodsB _
    (SameTables.refl rt) fun acc h m _ => h.trans (faStep_tables method path acc m)

theorem tailMatch_tables : SameTables rt (tailMatch rt method path).2 := by
  fun_cases tailMatch rt method path with
  | case2 | case3 => exact findAllowed_tables rt method path
  | _ => exact SameTables.refl rt

theorem headMatch_tables : SameTables rt (headMatch rt method path).2 := by
  have h := matchM_tables rt methodGET path
  fun_cases headMatch rt method path with
  | case1 _ r ps c rt2 hg => rwa [hg] at h
  | case2 _ rt2 hg => rw [hg] at h; exact h.trans (tailMatch_tables rt2 method path)
  | case3 => exact tailMatch_tables rt method path

theorem quickMatch_tables : SameTables rt (quickMatch rt method path).2 := by
  fun_cases quickMatch rt method path with
  | case1 q r ps c rt1 hg => have h := matchM_tables rt method q; rwa [hg] at h
  | case2 q rt1 hg =>
    have h := matchM_tables rt method q
    rw [hg] at h
    exact h.trans (headMatch_tables rt1 method q)

end

/-! ### with a coherent cache they answer as their stateless counterparts, and keep it coherent -/

theorem matchM_spec (rt : RouterM) (m p : Bytes) (hm : (0x2F : Nat) ∉ m) (hp : p.head? = some 0x2F)
    (hc : CacheOK rt) :
    ((matchM rt m p).1.map fun x => (x.1, x.2.1)) = lookupPure rt m p ∧ CacheOK (matchM rt m p).2 := by
  -- consulted or not, the cache answers only what the dynamic tiers would
  have hg : ∀ {hit c1}, (if rt.opts.caching = true then rt.cache.get (m ++ p) else (none, rt.cache)) = (hit, c1) →
      (∀ v, hit = some v → dynK rt (m ++ p) = some v) ∧ Cache.Coherent (dynK rt) c1 := by
    intro hit c1 h
    split at h
    · have := Cache.get_coherent _ _ (m ++ p) hc
      rwa [h] at this
    · cases h
      exact ⟨nofun, hc⟩
  -- `dynK` reads method and path back from the key; `hm` and `hp` make that reading `(m, p)`
  have hdk : alistGet rt.stable (m ++ p) = none → dynK rt (m ++ p) = dynMatch rt m p := fun hs => by
    unfold dynK
    rw [hs, splitKey_append m p hm hp]
    rfl
  unfold lookupPure
  fun_cases matchM rt m p with
  | case1 r hs => rw [hs]; exact ⟨rfl, hc⟩
  | case2 hs key c1 r ps hget =>
    rw [hs]
    exact ⟨(hdk hs ▸ (hg hget).1 _ rfl).symm, (hg hget).2⟩
  | case3 hs key c1 r ps hd c2 hget =>
    rw [hs, hd]
    refine ⟨rfl, ?_⟩
    show Cache.Coherent (dynK rt) (if rt.opts.caching = true then c1.set (m ++ p) (r, ps) else c1)
    split
    · exact Cache.set_coherent _ _ _ _ (hg hget).2 ((hdk hs).trans hd)
    · exact (hg hget).2
  | case4 hs key c1 hd hget => rw [hs, hd]; exact ⟨rfl, (hg hget).2⟩

section
variable (rt : RouterM) (method path : Bytes) (hp : path.head? = some 0x2F) (hc : CacheOK rt)
include hp hc

theorem findAllowed_spec :
    (findAllowed rt method path).1 = allowedPure rt method path ∧ CacheOK (findAllowed rt method path).2 := by
  rw [Tie.findAllowed_eq]
  suffices h : ∀ ms : List Bytes, (∀ m ∈ ms, (0x2F : Nat) ∉ m) → ∀ acc rt', SameTables rt rt' → CacheOK rt' →
      (ms.foldl (Tie.faStep method path) (acc, rt')).1 =
        acc ++ ms.filter (fun m => !(decide (m = method)) && (lookupPure rt m path).isSome) ∧
      CacheOK (ms.foldl (Tie.faStep method path) (acc, rt')).2 from h anyMethodsB anyMethodsB_no_slash [] rt (.refl rt) hc
  intro ms hms
  induction ms with
  | nil => intro acc rt' hs hc; exact ⟨(List.append_nil _).symm, hc⟩
  | cons m ms ih =>
    intro acc rt' hs hc
    have ih := ih fun m' h => hms m' (List.mem_cons_of_mem _ h)
    rw [List.foldl_cons, List.filter_cons, Tie.faStep]
    by_cases hm : m = method
    · rw [if_pos hm, decide_eq_true hm]
      exact ih acc rt' hs hc
    · obtain ⟨e1, e3⟩ := matchM_spec rt' m path (hms m (List.mem_cons_self ..)) hp hc
      rw [if_neg hm, decide_eq_false hm, ← lookupPure_same hs, ← e1, Option.isSome_map]
      obtain ⟨h1, h2⟩ := ih (if (matchM rt' m path).1.isSome then acc ++ [m] else acc)
        (matchM rt' m path).2 (hs.trans (matchM_tables rt' m path)) e3
      refine ⟨h1.trans ?_, h2⟩
      cases (matchM rt' m path).1.isSome
      · rfl
      · exact List.append_assoc acc [m] _

theorem tailMatch_spec :
    (tailMatch rt method path).1.obs = tailPure rt method path ∧ CacheOK (tailMatch rt method path).2 := by
  -- `tailMatch` and `tailPure` are the same decision tree; walk both at once
  unfold tailMatch tailPure
  cases (if rt.opts.fallback = true then alistGet rt.stable (method ++ slashStar) else none) with
  | some r => exact ⟨rfl, hc⟩
  | none =>
    dsimp only
    by_cases hna : rt.opts.notAllowed = true
    · rw [if_pos hna, if_pos hna]
      obtain ⟨g1, g2⟩ := findAllowed_spec rt method path hp hc
      rw [g1]
      split <;> exact ⟨rfl, g2⟩
    · rw [if_neg hna, if_neg hna]; exact ⟨rfl, hc⟩

theorem headMatch_spec :
    (headMatch rt method path).1.obs = headPure rt method path ∧ CacheOK (headMatch rt method path).2 := by
  unfold headMatch headPure
  by_cases hhead : method = methodHEAD
  · rw [if_pos hhead, if_pos hhead]
    obtain ⟨f1, f3⟩ := matchM_spec rt methodGET path (by decide) hp hc
    have f2 := matchM_tables rt methodGET path
    rw [← f1]
    generalize matchM rt methodGET path = res at f2 f3
    obtain ⟨hit, rt1⟩ := res
    cases hit with
    | some x => exact ⟨rfl, f3⟩
    | none =>
      obtain ⟨g1, g2⟩ := tailMatch_spec rt1 method path hp f3
      exact ⟨g1.trans (tailPure_same f2 method path), g2⟩
  · rw [if_neg hhead, if_neg hhead]
    exact tailMatch_spec rt method path hp hc

end

theorem quickMatch_spec (rt : RouterM) (method p0 : Bytes) (hm : (0x2F : Nat) ∉ method) (hc : CacheOK rt) :
    (quickMatch rt method p0).1.obs = quickPure rt method p0 ∧
    SameTables rt (quickMatch rt method p0).2 ∧ CacheOK (quickMatch rt method p0).2 := by
  -- the middle conjunct is `quickMatch_tables`; left are the answer and the cache
  refine and_left_comm.mpr ⟨quickMatch_tables rt method p0, ?_⟩
  unfold quickMatch quickPure
  dsimp only
  generalize hpath : fmtPath rt.opts.strict (if rt.opts.intercept.isEmpty = true then p0 else rt.opts.intercept) = path
  have hp : path.head? = some 0x2F := hpath ▸ fmtPath_head _ _
  obtain ⟨e1, e3⟩ := matchM_spec rt method path hm hp hc
  have e2 := matchM_tables rt method path
  rw [← e1]
  generalize matchM rt method path = res at e2 e3
  obtain ⟨hit, rt1⟩ := res
  cases hit with
  | some x => exact ⟨rfl, e3⟩
  | none =>
    obtain ⟨g1, g2⟩ := headMatch_spec rt1 method path hp e3
    exact ⟨g1.trans (headPure_same e2 method path), g2⟩

theorem runQuick_spec (h : List (Bytes × Bytes)) (hm : ∀ mp ∈ h, (0x2F : Nat) ∉ mp.1) :
    ∀ (rt0 rt : RouterM), SameTables rt0 rt → CacheOK rt →
      runQuick rt h = (h.map fun mp => quickPure rt0 mp.1 mp.2) ∧
      SameTables rt0 (h.foldl (fun rt mp => (quickMatch rt mp.1 mp.2).2) rt) ∧
      CacheOK (h.foldl (fun rt mp => (quickMatch rt mp.1 mp.2).2) rt) := by
  induction h with
  | nil => intro _ _ hs hc; exact ⟨rfl, hs, hc⟩
  | cons mp h ih =>
    intro rt0 rt hs hc
    obtain ⟨e1, e2, e3⟩ := quickMatch_spec rt mp.1 mp.2 (hm mp (List.mem_cons_self ..)) hc
    obtain ⟨i1, i2⟩ := ih (fun x hx => hm x (List.mem_cons_of_mem _ hx)) rt0 _ (hs.trans e2) e3
    refine ⟨?_, i2⟩
    rw [runQuick, List.map_cons, e1, i1, quickPure_same hs]

end Rux
