import RuxModel.Lemmas.Trim
import RuxModel.Lemmas.Bytes
import RuxModel.Props.C11Tie
/-
  Lemmas about `formatPath` / `simpleFmtPath` (Model/Path.lean) behind the theorems of Props/C11.lean.
  `formatPath_eq`: `formatPath st p = .ok (final st p)`; that it is total and equal to `fmtPath`, the total function of
  the route-table model, is the tie theorem `C11_table_normaliser` (hence the import of Props/C11Tie).  `core_eq` makes
  `final st p` three trims in the terms of Lemmas/Trim: `'/' :: trimLeft '/' (rtrim (trail st) (strip spaceAtHead p))`.
  The results are the normal forms `NF`, which are fixed points.
-/
namespace Rux.Path
open Bytes

theorem slash_inert : Inert slash := ⟨by decide, by decide⟩

theorem trimLeft_replicate (c : Nat) (k : Nat) (x : Bytes) :
    trimLeftByte c (List.replicate k c ++ x) = trimLeftByte c x := by
  induction k with
  | zero => rfl
  | succ n ih => rw [List.replicate_succ, List.cons_append, trimLeft_cons_self, ih]

theorem trimLeft_id {c : Nat} {s : Bytes} (h : s.head? ≠ some c) : trimLeftByte c s = s := by
  cases s with
  | nil => rfl
  | cons b t => exact trimLeft_cons_ne (by simpa using h)

/-! ### `endsWith`, the guard of the right-hand trim -/

def endsWith (c : Nat) (s : Bytes) : Bool := hasSuffix s [c]

theorem endsWith_eq (c : Nat) (s : Bytes) : endsWith c s = (s.reverse.head? == some c) := by
  unfold endsWith hasSuffix
  cases s.reverse with
  | nil => rfl
  | cons b t => simp [hasPrefix, Bool.beq_eq_decide_eq]

theorem endsWith_nil (c : Nat) : endsWith c [] = false := rfl

theorem endsWith_append_single (c : Nat) (s : Bytes) : endsWith c (s ++ [c]) = true := by
  simp [endsWith_eq]

theorem endsWith_append (c : Nat) (x : Bytes) {s : Bytes} (hs : s ≠ []) :
    endsWith c (x ++ s) = endsWith c s := by
  rw [endsWith_eq, endsWith_eq, List.reverse_append]
  cases hr : s.reverse with
  | nil => simp at hr; exact absurd hr hs
  | cons b t => simp

theorem endsWith_cons {c b : Nat} {s : Bytes} (hs : s ≠ []) : endsWith c (b :: s) = endsWith c s :=
  endsWith_append c [b] hs

/-! ### the closed form of `formatPath` -/

/-- the string after the trimming steps of `formatPath`, before the leading slash is repaired -/
def core (st : Bool) (p : Bytes) : Bytes :=
  let t := trimSpace p
  if !st && endsWith slash t then trimRightSpaceOrByte slash t else t

/-- what `formatPath` returns -/
def final (st : Bool) (p : Bytes) : Bytes := slash :: trimLeftByte slash (core st p)

theorem final_head (st : Bool) (p : Bytes) : ∃ t, final st p = slash :: t := ⟨_, rfl⟩

theorem fmtPath_eq_final (st : Bool) (p : Bytes) : fmtPath st p = final st p := by
  by_cases h : p = [] ∨ p = [0x2F]
  · rcases h with rfl | rfl <;> cases st <;> rfl
  · unfold fmtPath final core endsWith trimRightSlashSpace slash
    rw [if_neg h]
    dsimp only
    -- whatever the trims return (`q`), both sides only look at its first two bytes
    generalize (if (_ && _) = true then _ else _ : Bytes) = q
    match q with
    | [] => rfl
    | [c] => by_cases hc : c = 0x2F <;> simp [hc, trimLeftByte]
    | c :: d :: t => by_cases hc : c = 0x2F <;> by_cases hd : d = 0x2F <;> simp [hc, hd, trimLeftByte]

theorem formatPath_eq (st : Bool) (p : Bytes) : formatPath st p = .ok (final st p) :=
  fmtPath_eq_final st p ▸ C11_table_normaliser st p

/-! ### the head functions of the trims: `spaceAtHead` on the left, `trail st` on the right -/

abbrev G := spaceOrByteAtHeadRev slash

theorem G_nil : G [] = 0 := rfl

/-- what the right-hand trim cuts (read on the reversed string): white space, in non-strict mode (`G`) slashes as well -/
def trail (st : Bool) : Bytes → Nat := if st then spaceAtHeadRev else G

theorem reads_trail (st : Bool) :
    Reads (fun w => (st = false ∧ w = [slash]) ∨ isWsRune w.reverse = true) (trail st) := by
  cases st
  · simpa [trail] using reads_spaceOrByte slash_inert
  · simpa [trail] using reads_spaceRev

theorem headFn_trail (st : Bool) : HeadFn (trail st) := (reads_trail st).headFn

theorem spaceAtHead_slash (s : Bytes) : spaceAtHead (slash :: s) = 0 := spaceAtHead_inert slash_inert s

theorem spaceAtHead_after_slash {y : Bytes} (r : Bytes) (h : spaceAtHead y = 0) :
    spaceAtHead (y ++ slash :: r) = 0 := by
  cases y with
  | nil => exact spaceAtHead_slash r
  | cons b t => exact spaceAtHead_after r h (by simp) (Or.inl (by decide))

theorem trail_zero_iff (st : Bool) (s : Bytes) :
    trail st s.reverse = 0 ↔ spaceAtHeadRev s.reverse = 0 ∧ (st = false → endsWith slash s = false) := by
  rw [endsWith_eq]
  generalize s.reverse = y
  cases st
  · cases y with
    | nil => simp [trail, spaceOrByteAtHeadRev, spaceAtHeadRev]
    | cons b t => by_cases h : b = slash <;> simp [trail, spaceOrByteAtHeadRev, h]
  · simp [trail]

theorem trail_after_slash {st : Bool} {y : Bytes} (r : Bytes) (h : trail st y = 0) (hy : y ≠ []) :
    trail st (y ++ slash :: r) = 0 := by
  refine (reads_trail st).after (fun w hw hm => ?_) r h hy
  rcases hw with ⟨_, rfl⟩ | hw
  · cases hm
  · exact wsRune_inert hw slash_inert (List.mem_reverse.2 (List.mem_of_mem_tail hm))

/-! ### `trimSpace` -/

theorem trimSpace_noTrail (p : Bytes) : spaceAtHeadRev (trimSpace p).reverse = 0 := by
  rw [trimSpace_eq]; exact rtrim_fix headFn_spaceRev _

theorem trimSpace_noLead (p : Bytes) : spaceAtHead (trimSpace p) = 0 := by
  rw [trimSpace_eq]
  exact head_zero_of_prefix headFn_space (rtrim_prefix headFn_spaceRev _) (strip_fix headFn_space p)

theorem trimSpace_id {p : Bytes} (h : spaceAtHead p = 0) (h' : spaceAtHeadRev p.reverse = 0) : trimSpace p = p := by
  rw [trimSpace_eq, strip_zero h, rtrim_zero h']

theorem trimSpace_idem (p : Bytes) : trimSpace (trimSpace p) = trimSpace p :=
  trimSpace_id (trimSpace_noLead p) (trimSpace_noTrail p)

/-! ### `core` as two trims -/

/-- the guard `endsWith` only skips a trim that would do nothing, and the words of `spaceAtHeadRev` are words of
    `trail st` -/
theorem core_eq (st : Bool) (p : Bytes) : core st p = rtrim (trail st) (strip spaceAtHead p) := by
  have hm : rtrim (trail st) (trimSpace p) = rtrim (trail st) (strip spaceAtHead p) := by
    rw [trimSpace_eq]; unfold rtrim
    rw [List.reverse_reverse, reads_spaceRev.strip_mono (reads_trail st) fun _ => .inr]
  have h0 := trimSpace_noTrail p
  rw [← hm]
  cases st
  · simp only [core, Bool.not_false, Bool.true_and, trimRightSpaceOrByte_eq]
    split
    · rfl
    · rename_i he
      exact (rtrim_zero ((trail_zero_iff _ _).2 ⟨h0, fun _ => Bool.eq_false_iff.2 he⟩)).symm
  · exact (rtrim_zero h0).symm

theorem core_strict (p : Bytes) : core true p = trimSpace p := rfl

theorem final_trimSpace (st : Bool) (p : Bytes) : final st (trimSpace p) = final st p := by
  simp only [final, core, trimSpace_idem]

/-! ### slashes in front -/

/-- the right-hand trim stops at the slash unless it has eaten all of `u`; then the slash goes one way or the other -/
theorem trimLeft_rtrim_cons (st : Bool) (u : Bytes) :
    trimLeftByte slash (rtrim (trail st) (slash :: u)) = trimLeftByte slash (rtrim (trail st) u) := by
  unfold rtrim
  rw [List.reverse_cons, strip_append (headFn_trail st)]
  by_cases h : strip (trail st) u.reverse = []
  · rw [h, List.nil_append]
    rcases List.suffix_cons_iff.1 (strip_suffix (headFn_trail st) [slash]) with e | e
    · rw [e]; rfl
    · rw [List.suffix_nil.1 e]
  · rw [strip_zero (trail_after_slash [] (strip_fix (headFn_trail st) _) h), List.reverse_append]
    exact trimLeft_cons_self slash _

theorem final_cons_slash (st : Bool) {P : Bytes} (h : spaceAtHead P = 0) : final st (slash :: P) = final st P := by
  rw [final, final, core_eq, core_eq, strip_zero (spaceAtHead_slash P), strip_zero h, trimLeft_rtrim_cons]

theorem final_replicate_slash (st : Bool) (k : Nat) (x : Bytes) :
    final st (List.replicate (k + 1) slash ++ x) = final st (slash :: x) := by
  induction k with
  | zero => rfl
  | succ n ih =>
    rw [List.replicate_succ, List.cons_append, final_cons_slash st, ih]
    rw [List.replicate_succ]; exact spaceAtHead_slash _

/-! ### words in front and behind -/

/-- if appending one word of `S` never changes `f`, appending a list of them does not -/
theorem append_flatten_invariant {β : Type} {f : Bytes → β} {S : Bytes → Prop}
    (h : ∀ w, S w → ∀ P, f (P ++ w) = f P) (r : List Bytes) (hr : ∀ w ∈ r, S w) (P : Bytes) :
    f (P ++ r.flatten) = f P := by
  induction r generalizing P with
  | nil => simp
  | cons w r ih =>
    obtain ⟨hw, hr⟩ := List.forall_mem_cons.1 hr
    rw [List.flatten_cons, ← List.append_assoc, ih hr, h w hw]

theorem final_word_append (st : Bool) {w : Bytes} (hw : isWsRune w = true) (P : Bytes) :
    final st (w ++ P) = final st P := by
  rw [final, final, core_eq, core_eq, reads_space.strip_word hw]

theorem final_append_word (st : Bool) {v : Bytes} (hv : isWsRune v = true ∨ (st = false ∧ v = [slash]))
    (P : Bytes) : final st (P ++ v) = final st P := by
  rw [final, final, core_eq, core_eq]
  rcases hv with hw | ⟨rfl, rfl⟩
  -- if `P` is all white space the left trim eats `v` as well; otherwise it stops inside `P` and the right trim cuts `v`
  · by_cases hy : strip spaceAtHead P = []
    · have := reads_space.strip_word hw []
      rw [List.append_nil] at this
      rw [strip_append headFn_space, hy, List.nil_append, this, strip_nil]
    · obtain ⟨c, t, rfl, hc⟩ := wsRune_bytes hw
      have hc : c < 0x80 ∨ 0xC0 ≤ c := hc.imp (fun h => isAsciiSpace_lt h.2) (·.1)
      rw [strip_append_zero headFn_space (spaceAtHead_after t (strip_fix headFn_space P) hy hc),
        (reads_trail st).rtrim_word (.inr (by rwa [List.reverse_reverse]))]
  · rw [strip_append_zero headFn_space (spaceAtHead_after_slash [] (strip_fix headFn_space P)),
      (reads_trail false).rtrim_word (.inl ⟨rfl, rfl⟩)]

/-! ### normal forms -/

/-- the shape of every result of `formatPath`: `/`, or `/c…` with `c ≠ '/'` and nothing at the end that the
    right-hand trim would cut: no white space and (non-strict mode) no slash -/
def NF (st : Bool) (s : Bytes) : Prop :=
  s = [slash] ∨ ∃ c rest, s = slash :: c :: rest ∧ c ≠ slash ∧ trail st s.reverse = 0

theorem nf_iff (st : Bool) (s : Bytes) :
    NF st s ↔ (s = [slash] ∨ ∃ c rest, s = slash :: c :: rest ∧ c ≠ slash ∧ spaceAtHeadRev s.reverse = 0 ∧
      (st = false → hasSuffix s [slash] = false)) := by
  simp only [NF, trail_zero_iff, endsWith]

theorem nf_fixed {st : Bool} {s : Bytes} (h : NF st s) : final st s = s := by
  rcases h with rfl | ⟨c, rest, rfl, hc, hr⟩
  · cases st <;> rfl
  · rw [final, core_eq, strip_zero (spaceAtHead_slash _), rtrim_zero hr, trimLeft_cons_self, trimLeft_cons_ne hc]

theorem final_nf (st : Bool) (p : Bytes) : NF st (final st p) := by
  unfold final
  obtain ⟨k, hq, hv⟩ := trimLeft_decomp slash (core st p)
  generalize hvv : trimLeftByte slash (core st p) = v at hq hv
  cases v with
  | nil => exact Or.inl rfl
  | cons c rest =>
    have h1 : trail st (core st p).reverse = 0 := core_eq st p ▸ rtrim_fix (headFn_trail st) _
    rw [hq, List.reverse_append] at h1
    refine .inr ⟨c, rest, rfl, by simpa using hv, ?_⟩
    rw [List.reverse_cons]
    exact trail_after_slash [] (head_zero_of_prefix (headFn_trail st) (List.prefix_append _ _) h1) (by simp)

/-! ### registration = lookup -/

theorem simpleFmtPath_eq (p : Bytes) : simpleFmtPath p = final true p := by
  unfold simpleFmtPath final
  rw [core_strict]
  simp only
  split
  · rename_i h; rw [h]; rfl
  · rfl

theorem final_simple (st : Bool) (P : Bytes) : final st (simpleFmtPath P) = final st P := by
  rw [simpleFmtPath_eq, ← final_trimSpace st P]
  -- `final true P` is `'/' :: v` where `trimSpace P` is `k` slashes and then `v`: put the slashes back
  obtain ⟨k, hq, _⟩ := trimLeft_decomp slash (trimSpace P)
  show final st (slash :: trimLeftByte slash (trimSpace P)) = _
  generalize trimLeftByte slash (trimSpace P) = v at hq
  cases k with
  | zero =>
    rw [List.replicate_zero, List.nil_append] at hq
    rw [final_cons_slash st (by rw [← hq]; exact trimSpace_noLead P), hq]
  | succ n => rw [hq, final_replicate_slash]

/-! ### groups -/

theorem nf_append {st : Bool} {g p : Bytes} (hg : NF st g) (hg1 : g ≠ [slash]) (hp : NF st p)
    (hp1 : st = false → p ≠ [slash]) : NF st (g ++ p) := by
  rcases hg with h | ⟨c, rest, rfl, hc, _⟩
  · exact absurd h hg1
  · refine .inr ⟨c, rest ++ p, rfl, hc, ?_⟩
    rw [List.reverse_append]
    rcases hp with rfl | ⟨c', rest', rfl, _, hr'⟩
    · cases st
      · exact absurd rfl (hp1 rfl)
      · exact spaceAtHeadRev_inert slash_inert _
    · rw [List.reverse_cons] at hr' ⊢
      rw [List.append_assoc]
      exact trail_after_slash _ (head_zero_of_prefix (headFn_trail st) (List.prefix_append _ _) hr') (by simp)

theorem final_group {st : Bool} {g p : Bytes} (hg : NF st g) (hp : NF st p) :
    final st (g ++ p) =
      if g = [slash] then p else if st = false ∧ p = [slash] then g else g ++ p := by
  by_cases h1 : g = [slash]
  · have h0 : spaceAtHead p = 0 := by rcases hp with rfl | ⟨_, _, rfl, _⟩ <;> exact spaceAtHead_slash _
    rw [if_pos h1, h1, List.singleton_append, final_cons_slash st h0, nf_fixed hp]
  · rw [if_neg h1]
    by_cases h2 : st = false ∧ p = [slash]
    · rw [if_pos h2, h2.2, final_append_word st (.inr ⟨h2.1, rfl⟩), nf_fixed hg]
    · rw [if_neg h2]
      exact nf_fixed (nf_append hg h1 hp (fun hst h => h2 ⟨hst, h⟩))

/-- the stored path as a total function (the panic-free reading of `storedPath`) -/
def stored (st : Bool) (pre P : Bytes) : Bytes :=
  if pre ≠ [] then final st (pre ++ final st P) else final st P

theorem storedPath_eq (st : Bool) (pre P : Bytes) : storedPath st pre P = .ok (stored st pre P) := by
  unfold storedPath stored
  simp only [formatPath_eq, final_simple, bind, Except.bind, pure, Except.pure]
  split <;> rfl

theorem stored_nf (st : Bool) (pre P : Bytes) : NF st (stored st pre P) := by
  unfold stored; split <;> exact final_nf _ _

theorem nestedPrefix_eq (st : Bool) (prev : Bytes) (gs : List Bytes) :
    nestedPrefix st prev gs = .ok (prev ++ (gs.map (final st)).flatten) := by
  induction gs generalizing prev with
  | nil => simp [nestedPrefix]
  | cons g gs ih =>
    simp only [nestedPrefix, groupPrefix, formatPath_eq, bind, Except.bind, pure, Except.pure]
    rw [ih]; simp

/-! ### the static table -/

theorem find_add (t : Table) (m p key : Bytes) (id : Nat) :
    (t.add m p id).find key = if m ++ p = key then some id else t.find key := rfl

theorem find_some_mem {t : Table} {key : Bytes} {id : Nat} (h : t.find key = some id) : (key, id) ∈ t := by
  fun_induction Table.find t key with
  | case1 => cases h
  | case2 i rest => cases h; exact List.mem_cons_self
  | case3 k i rest hk ih => exact List.mem_cons_of_mem _ (ih h)

theorem find_of_mem {t : Table} {key : Bytes} {id : Nat} (h : (key, id) ∈ t) : ∃ id', t.find key = some id' := by
  fun_induction Table.find t key with
  | case1 => cases h
  | case2 i rest => exact ⟨i, rfl⟩
  | case3 k i rest hk ih =>
    rcases List.mem_cons.1 h with h | h
    · cases h; exact absurd rfl hk
    · exact ih h

theorem matchStatic_eq (r : Router) (m q : Bytes) :
    r.matchStatic m q =
      .ok (r.stable.find (m ++ final r.strict (if r.intercept ≠ [] then r.intercept else q))) := by
  simp only [Router.matchStatic, formatPath_eq]; rfl

theorem addStatic_eq (r : Router) (m P : Bytes) (id : Nat) :
    r.addStatic m P id =
      .ok ({ r with stable := r.stable.add m (stored r.strict r.prefix_ P) id }, stored r.strict r.prefix_ P) := by
  simp only [Router.addStatic, storedPath_eq]; rfl

/-- the key under which a registration `(gs, m, p, id)` is stored -/
def regKey (st : Bool) (pre0 : Bytes) (e : List Bytes × Bytes × Bytes × Nat) : Bytes :=
  e.2.1 ++ stored st (pre0 ++ (e.1.map (final st)).flatten) e.2.2.1

theorem regAll_eq (r : Router) (regs : List (List Bytes × Bytes × Bytes × Nat)) :
    r.regAll regs = .ok { r with stable :=
      (regs.reverse.map fun e => (regKey r.strict r.prefix_ e, e.2.2.2)) ++ r.stable } := by
  induction regs generalizing r with
  | nil => rfl
  | cons e regs ih =>
    simp only [Router.regAll, nestedPrefix_eq, addStatic_eq, bind, Except.bind]
    rw [ih]
    simp [regKey, Table.add]

end Rux.Path
