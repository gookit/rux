import RuxModel.Spec.Writer
/-
  Lemmas about the writer model (Model/Writer.lean) and its specification (Spec/Writer.lean).  A writer is uncommitted
  while `length = -1` and committed once `0 ≤ length`.  `run_uncommitted` is the main lemma; Props/C08.lean reads its
  theorems off `finish_uncommitted`.
-/
namespace Rux
namespace Writer

-- the status that is committed for a recorded status: `ensureWriteHeader` sends 200 for 0
def norm (st : Int) : Int := if st = 0 then 200 else st

theorem norm_pos (c : Int) (h : c > 0) : norm c = c :=
  if_neg (Int.ne_of_gt h)

/-- the status specification in recursive form, from a recorded status `cur` -/
def statusFrom (cur : Int) : List Op → Int
  | [] => norm cur
  | op :: rest => if op.isIO then norm cur else statusFrom (op.posCode.getD cur) rest

theorem Op.posCode_pos {op : Op} {c : Int} (h : op.posCode = some c) : c > 0 := by
  revert h
  fun_cases Op.posCode op with
  | case1 d hd => rintro ⟨⟩; exact hd
  | case2 | case3 => exact nofun

theorem statusFrom_eq (cur : Int) (ops : List Op) :
    statusFrom cur ops =
      (((ops.takeWhile Op.notIO).filterMap Op.posCode).getLast?).getD (norm cur) := by
  fun_induction statusFrom cur ops with
  | case1 => rfl
  | case2 cur op rest hio => simp [Op.notIO, hio]
  | case3 cur op rest hio ih =>
    have hn : Op.notIO op = true := by simp [Op.notIO, hio]
    rw [ih, List.takeWhile_cons_of_pos hn]
    cases hp : op.posCode with
    | none => rw [List.filterMap_cons_none hp]; rfl
    | some c =>
      rw [List.filterMap_cons_some hp, List.getLast?_cons, Option.getD_some, Option.getD_some,
        norm_pos c (Op.posCode_pos hp)]

theorem statusFrom_zero (ops : List Op) : statusFrom 0 ops = specStatus ops :=
  statusFrom_eq 0 ops

/-! ### `ensure` and `step` -/

section
variable (w : W) (op : Op)

theorem ensure_committed (h : 0 ≤ w.length) : ensure w = w :=
  if_neg (by omega)

theorem ensure_uncommitted (h : w.length = -1) :
    ensure w = { w with status := norm w.status, length := 0, sent := some w.ctype, log := w.log ++ [.wh (norm w.status)] } :=
  if_pos h

theorem ensure_uncommitted_nonneg (h : w.length = -1) : 0 ≤ (ensure w).length := by
  rw [ensure_uncommitted w h]; exact Int.le_refl 0

theorem ensure_idem : ensure (ensure w) = ensure w := by
  by_cases h : w.length = -1
  · exact ensure_committed _ (ensure_uncommitted_nonneg w h)
  · have e : ensure w = w := if_neg h
    rw [e, e]

theorem step_setStatus (c : Int) :
    step w (.setStatus c) = { w with status := if c > 0 then c else w.status } := by
  obtain ⟨st, len, ct, snt, log⟩ := w
  by_cases hc : c > 0 <;> by_cases he : st = c <;> simp [step, hc, he]

theorem step_setCT (v : Bytes) : step w (.setCT v) = { w with ctype := some v } := rfl

theorem step_setCTIfAbsent (v : Bytes) :
    step w (.setCTIfAbsent v) = { w with ctype := some (w.ctype.getD v) } := by
  cases w with
  | mk st len ct sent log => cases ct <;> rfl

theorem step_nonIO (h : op.isIO = false) :
    (step w op).length = w.length ∧ (step w op).log = w.log ∧ (step w op).status = op.posCode.getD w.status := by
  cases op with
  | setStatus c => rw [step_setStatus]; by_cases hc : c > 0 <;> simp [Op.posCode, hc]
  | setCTIfAbsent v => rw [step_setCTIfAbsent]; exact ⟨rfl, rfl, rfl⟩
  | setCT v => exact ⟨rfl, rfl, rfl⟩
  | setHeader => exact ⟨rfl, rfl, rfl⟩
  | write b acc err => cases h
  | flush => cases h

theorem step_io (h : op.isIO = true) : step w op = step (ensure w) op := by
  cases op with
  | write b acc err => simp only [step, ensure_idem]
  | flush => simp only [step, ensure_idem]
  | _ => cases h

theorem step_committed (h : 0 ≤ w.length) :
    (step w op).log = w.log ++ op.ev.toList ∧ (step w op).length = w.length + op.accepted := by
  cases op with
  | setStatus c => rw [step_setStatus]; simp [Op.ev, Op.accepted]
  | setCTIfAbsent v => rw [step_setCTIfAbsent]; simp [Op.ev, Op.accepted]
  | _ => simp [step, ensure_committed w h, Op.ev, Op.accepted]

end

/-! ### `run` -/

theorem run_cons (w : W) (op : Op) (rest : List Op) : run w (op :: rest) = run (step w op) rest := rfl

theorem run_append (w : W) (a b : List Op) : run w (a ++ b) = run (run w a) b :=
  List.foldl_append

theorem ioEvents_cons (op : Op) (rest : List Op) : ioEvents (op :: rest) = op.ev.toList ++ ioEvents rest := by
  cases h : op.ev <;> simp [ioEvents, h]

theorem specLength_cons (op : Op) (rest : List Op) : specLength (op :: rest) = op.accepted + specLength rest := by
  simp [specLength]

theorem run_committed (ops : List Op) : ∀ w : W, 0 ≤ w.length →
    (run w ops).log = w.log ++ ioEvents ops ∧ (run w ops).length = w.length + specLength ops := by
  induction ops with
  | nil => intro w _; simp [run, ioEvents, specLength]
  | cons op rest ih =>
    intro w hw
    obtain ⟨h1, h2⟩ := step_committed w op hw
    obtain ⟨g1, g2⟩ := ih (step w op) (h2 ▸ Int.add_nonneg hw (Int.natCast_nonneg _))
    rw [run_cons, ioEvents_cons, specLength_cons, g1, g2, h1, h2, List.append_assoc, Int.add_assoc]
    exact ⟨rfl, rfl⟩

theorem run_io_cons (w : W) (op : Op) (rest : List Op) (h : op.isIO = true) :
    run w (op :: rest) = run (ensure w) (op :: rest) := by
  rw [run_cons, run_cons, step_io w op h]

theorem ev_accepted_nonIO (op : Op) (h : op.isIO = false) : op.ev = none ∧ op.accepted = 0 := by
  cases op with
  | write b acc err => cases h
  | flush => cases h
  | _ => exact ⟨rfl, rfl⟩

theorem run_uncommitted (ops : List Op) : ∀ w : W, w.length = -1 →
    (ops.any Op.isIO = false →
      (run w ops).length = -1 ∧ (run w ops).log = w.log ∧ norm (run w ops).status = statusFrom w.status ops) ∧
    (ops.any Op.isIO = true →
      (run w ops).length = specLength ops ∧
      (run w ops).log = w.log ++ .wh (statusFrom w.status ops) :: ioEvents ops) := by
  induction ops with
  | nil => intro w hw; exact ⟨fun _ => ⟨hw, rfl, rfl⟩, nofun⟩
  | cons op rest ih =>
    intro w hw
    rw [List.any_cons, statusFrom]
    cases hio : op.isIO with
    | true =>
      refine ⟨nofun, fun _ => ?_⟩
      obtain ⟨h1, h2⟩ := run_committed (op :: rest) (ensure w) (ensure_uncommitted_nonneg w hw)
      rw [run_io_cons w op rest hio, h1, h2, ensure_uncommitted w hw, if_pos rfl]
      exact ⟨Int.zero_add _, List.append_assoc ..⟩
    | false =>
      obtain ⟨h1, h2, h3⟩ := step_nonIO w op hio
      obtain ⟨e1, e2⟩ := ev_accepted_nonIO op hio
      -- `op` adds no event and no byte: what is left is `ih` at `step w op`
      rw [run_cons, Bool.false_or, if_neg Bool.false_ne_true, ioEvents_cons, specLength_cons, e1, e2,
        Nat.zero_add, Option.toList_none, List.nil_append, ← h2, ← h3]
      exact ih (step w op) (h1.trans hw)

/-! ### only writes and flushes: the whole state, not only log and length (for `Stream`, Props/C19.lean) -/

theorem run_io_committed {ops : List Op} {w : W} (hw : 0 ≤ w.length) (h : ∀ o ∈ ops, o.isIO = true) :
    run w ops = { w with length := w.length + specLength ops, log := w.log ++ ioEvents ops } := by
  induction ops generalizing w with
  | nil => simp [run, specLength, ioEvents]
  | cons op rest ih =>
    obtain ⟨ho, hr⟩ := List.forall_mem_cons.mp h
    have hs : step w op = { w with length := w.length + op.accepted, log := w.log ++ op.ev.toList } := by
      cases op with
      | write b acc err => simp [step, ensure_committed w hw, Op.accepted, Op.ev]
      | flush => simp [step, ensure_committed w hw, Op.accepted, Op.ev]
      | _ => cases ho
    rw [run_cons, ih (hs ▸ Int.add_nonneg hw (Int.natCast_nonneg _)) hr, hs, ioEvents_cons, specLength_cons]
    simp [Int.add_assoc]

theorem finish_io_uncommitted {w : W} (hl : w.length = -1) {ops : List Op} (h : ∀ o ∈ ops, o.isIO = true) :
    ensure (run w ops) =
      { w with status := norm w.status, length := specLength ops, sent := some w.ctype,
               log := w.log ++ .wh (norm w.status) :: ioEvents ops } := by
  cases ops with
  | nil => simp [run, ensure_uncommitted w hl, specLength, ioEvents]
  | cons op rest =>
    have hc := ensure_uncommitted_nonneg w hl
    rw [run_io_cons w op rest (h op List.mem_cons_self), run_io_committed hc h,
      ensure_committed _ (by simp; omega), ensure_uncommitted w hl]
    simp

/-! ### the specifications -/

theorem isWH_of_mem_ioEvents {ops : List Op} {e : Ev} (h : e ∈ ioEvents ops) : e.isWH = false := by
  obtain ⟨op, _, hop⟩ := List.mem_filterMap.mp h
  cases op <;> cases hop <;> rfl

-- the same in the two shapes the statements of Props/C08.lean have
theorem ioEvents_no_wh (ops : List Op) : (ioEvents ops).all (fun e => !e.isWH) = true :=
  List.all_eq_true.mpr fun _ he => by rw [isWH_of_mem_ioEvents he]; rfl

theorem filter_isWH_ioEvents (ops : List Op) : (ioEvents ops).filter Ev.isWH = [] :=
  List.filter_eq_nil_iff.mpr fun _ he => by rw [isWH_of_mem_ioEvents he]; exact Bool.false_ne_true

theorem ioEvents_specLength_nonIO (ops : List Op) (h : ops.any Op.isIO = false) :
    ioEvents ops = [] ∧ specLength ops = 0 := by
  have h' := fun o ho => ev_accepted_nonIO o (Bool.eq_false_iff.mpr (List.any_eq_false.mp h o ho))
  refine ⟨List.filterMap_eq_nil_iff.mpr fun o ho => (h' o ho).1, List.sum_eq_zero_iff_forall_eq_nat.mpr fun n hn => ?_⟩
  obtain ⟨o, ho, rfl⟩ := List.mem_map.mp hn
  exact (h' o ho).2

theorem finish_uncommitted (ops : List Op) (w : W) (hw : w.length = -1) :
    (ensure (run w ops)).log = w.log ++ .wh (statusFrom w.status ops) :: ioEvents ops ∧
    (ensure (run w ops)).length = specLength ops := by
  obtain ⟨h0, h1⟩ := run_uncommitted ops w hw
  cases hio : ops.any Op.isIO with
  | false =>
    obtain ⟨hl, hg, hs⟩ := h0 hio
    obtain ⟨e1, e2⟩ := ioEvents_specLength_nonIO ops hio
    rw [ensure_uncommitted _ hl, hs, hg, e1, e2]
    exact ⟨rfl, rfl⟩
  | true =>
    obtain ⟨hl, hg⟩ := h1 hio
    rw [ensure_committed _ (hl ▸ Int.natCast_nonneg _), hl, hg]
    exact ⟨rfl, rfl⟩

theorem accepted_of_accOk (op : Op) (h : op.accOk = true) : op.accepted = op.bodyPart.length := by
  cases op <;> simp_all [Op.accOk, Op.accepted, Op.bodyPart]

theorem bodyOf_ioEvents (ops : List Op) : bodyOf (ioEvents ops) = specBody ops := by
  induction ops with
  | nil => rfl
  | cons op rest ih =>
    simp only [bodyOf, specBody, ioEvents_cons, List.flatMap_append, List.flatMap_cons] at ih ⊢
    rw [ih]
    cases op <;> simp [Op.ev, Ev.body, Op.bodyPart]

/-! ### the request level -/

section
variable (c : Cfg) (prog : List (Site × Act)) {r : Req}

theorem acts_trace (h : r.w = run (W.fresh c.ct) r.trace) :
    (Req.acts c r prog).w = run (W.fresh c.ct) (Req.acts c r prog).trace := by
  fun_induction Req.acts c r prog with
  | case1 => exact h
  | case2 r s a rest ih =>
    apply ih
    fun_cases Req.act c r s a
    · rw [run_append, ← h]
    · exact h

theorem serve_trace : (serve c prog).w = run (W.fresh c.ct) (serve c prog).trace :=
  acts_trace c prog rfl

theorem acts_escaped (h : r.escaped = false)
    (hq : ∀ sa ∈ prog, (actPanics sa.2 && (sa.1 == .onPanic || !c.hasOnPanic)) = false) :
    (Req.acts c r prog).escaped = false := by
  fun_induction Req.acts c r prog with
  | case1 => exact h
  | case2 r s a rest ih =>
    refine ih ?_ fun x hx => hq x (List.mem_cons_of_mem _ hx)
    fun_cases Req.act c r s a
    · simp [h, hq _ List.mem_cons_self]
    · exact h

end

/-- for test vectors: `rw [ascii_ofList]` before `decide` (`String.toList` run on a literal costs the kernel time
    quadratic in its length) -/
theorem ascii_ofList (l : List Char) : ascii (String.ofList l) = l.map Char.toNat := by
  rw [ascii, String.toList_ofList]

end Writer
end Rux
