import RuxModel.Model.RegHeap
import RuxModel.Lemmas.Reg
/-
  The slice-level interpreter refines the list-level interpreter (`hexec_sim`): whatever the growth
  policy, the lists SHOWN by the slices evolve exactly as `exec` says — in particular the list shown
  by a registered route never changes — although groups append in place into shared backing arrays.
-/
namespace Rux.Reg

/-! ### definitions the statements of `C12_no_alias` (`Inv`) and `hexec_sim` (`Step`) are written in -/

/-- a slice fits its array -/
def Valid (h : Heap) (s : Slice) : Prop := s.len ≤ s.cap ∧ s.cap ≤ (cells h s.arr).length

/-- what one heap operation may change; `W a i`: it may write cell `i` of array `a` -/
def Ext (h h' : Heap) (W : Nat → Nat → Prop) : Prop :=
  h.length ≤ h'.length ∧ ∀ a, a < h.length →
    (cells h' a).length = (cells h a).length ∧ ∀ i, ¬ W a i → (cells h' a)[i]? = (cells h a)[i]?

/-- where `append` to `s` writes in place -/
def spare (s : Slice) (a i : Nat) : Prop := a = s.arr ∧ s.len ≤ i ∧ i < s.cap

/-- no cell of the slice lies in one of the first `n0` arrays -/
def Own (n0 : Nat) (s : Slice) : Prop := s.cap = 0 ∨ n0 ≤ s.arr

/-- the new slice lives in a new array, or is the old one grown in place -/
def FreshOr (n0 : Nat) (old new : Slice) : Prop :=
  new.cap = 0 ∨ n0 ≤ new.arr ∨ (new.arr = old.arr ∧ new.cap = old.cap ∧ old.len ≤ new.len)

/-- cells a later `append` may write: the spare capacity of the two router-held slices -/
def Wr (st : HS) (a i : Nat) : Prop := spare st.grp a i ∨ spare st.globals a i

/-- two slices in different arrays (or one of them without any cell) -/
def Disj (s t : Slice) : Prop := s.cap = 0 ∨ t.cap = 0 ∨ s.arr ≠ t.arr

structure Inv (st : HS) : Prop where
  vgrp : Valid st.heap st.grp
  vglob : Valid st.heap st.globals
  vroutes : ∀ r, r ∈ st.routes → Valid st.heap r.handlers
  dgg : Disj st.grp st.globals
  drg : ∀ r, r ∈ st.routes → Disj r.handlers st.grp
  drl : ∀ r, r ∈ st.routes → Disj r.handlers st.globals

/-- what a statement may do (`routes`: `Own st.heap.length r.handlers`, written out) -/
structure Step (st st' : HS) : Prop where
  ext : Ext st.heap st'.heap (Wr st)
  inv : Inv st'
  routes : ∃ new, st'.routes = st.routes ++ new ∧
    ∀ r, r ∈ new → r.handlers.cap = 0 ∨ st.heap.length ≤ r.handlers.arr
  fgrp : FreshOr st.heap.length st.grp st'.grp
  fglob : FreshOr st.heap.length st.globals st'.globals

/-! ### arrays, and what a slice shows -/

theorem cells_append_lt (h : Heap) (x : List H) {a : Nat} (ha : a < h.length) :
    cells (h ++ [x]) a = cells h a := by
  rw [cells, List.getElem?_append_left ha, cells]

theorem cells_append_eq (h : Heap) (x : List H) : cells (h ++ [x]) h.length = x := by
  simp [cells]

theorem cells_ge (h : Heap) {a : Nat} (ha : h.length ≤ a) : cells h a = [] := by
  rw [cells, List.getElem?_eq_none ha]
  rfl

theorem cells_set_ne (h : Heap) {a b : Nat} (v : List H) (hab : a ≠ b) : cells (h.set a v) b = cells h b := by
  rw [cells, List.getElem?_set_ne hab, cells]

/-- also when there is no array `a`: then both lists are empty -/
theorem cells_set_self {h : Heap} {a : Nat} {v : List H} (hl : v.length = (cells h a).length) :
    cells (h.set a v) a = v := by
  by_cases ha : a < h.length
  · simp [cells, ha]
  · have h0 := cells_ge h (Nat.le_of_not_lt ha)
    rw [h0] at hl
    rw [List.set_eq_of_length_le (Nat.le_of_not_lt ha), h0, List.length_eq_zero_iff.mp hl]

theorem valid_nil {h : Heap} : Valid h Slice.nil := by simp [Valid, Slice.nil]

theorem old_of_valid {h : Heap} {t : Slice} (hv : Valid h t) : t.cap = 0 ∨ t.arr < h.length := by
  by_cases ha : t.arr < h.length
  · exact Or.inr ha
  · have := hv.2
    rw [cells_ge h (Nat.le_of_not_lt ha)] at this
    exact Or.inl (Nat.le_zero.mp this)

theorem read_length {h : Heap} {s : Slice} (hv : Valid h s) : (read h s).length = s.len := by
  rw [read, List.length_take_of_le (Nat.le_trans hv.1 hv.2)]

theorem read_len0 {h : Heap} {s : Slice} (h0 : s.len = 0) : read h s = [] := by simp [read, h0]

theorem read_nil (h : Heap) : read h Slice.nil = [] := read_len0 rfl

/-! ### writing into the spare capacity -/

section
variable {cs xs : List H} {off : Nat} (h : off + xs.length ≤ cs.length)
include h

theorem writeAt_head_length : (cs.take off ++ xs).length = off + xs.length := by
  rw [List.length_append, List.length_take_of_le (Nat.le_trans (Nat.le_add_right _ _) h)]

theorem writeAt_length : (writeAt cs off xs).length = cs.length := by
  rw [writeAt, List.length_append, writeAt_head_length h, List.length_drop, Nat.add_sub_cancel' h]

theorem writeAt_outside {i : Nat} (hi : i < off ∨ off + xs.length ≤ i) : (writeAt cs off xs)[i]? = cs[i]? := by
  unfold writeAt
  rcases hi with hi | hi
  · have hl : i < (cs.take off).length := by
      rw [List.length_take_of_le (Nat.le_trans (Nat.le_add_right _ _) h)]; exact hi
    rw [List.append_assoc, List.getElem?_append_left hl, List.getElem?_take_of_lt hi]
  · rw [List.getElem?_append_right (by rw [writeAt_head_length h]; exact hi), writeAt_head_length h,
      List.getElem?_drop, Nat.add_sub_cancel' hi]

theorem writeAt_take : (writeAt cs off xs).take (off + xs.length) = cs.take off ++ xs :=
  List.take_left' (writeAt_head_length h)

end

/-! ### `Ext` and `Frozen` -/

section
variable {h h' h1 h2 : Heap} {W W' : Nat → Nat → Prop}

theorem ext_refl : Ext h h W :=
  ⟨Nat.le_refl _, fun _ _ => ⟨rfl, fun _ _ => rfl⟩⟩

theorem ext_trans (e1 : Ext h h1 W) (e2 : Ext h1 h2 W')
    (w : ∀ a i, a < h.length → W' a i → W a i) : Ext h h2 W := by
  refine ⟨Nat.le_trans e1.1 e2.1, fun a ha => ?_⟩
  have a1 := e1.2 a ha
  have a2 := e2.2 a (Nat.lt_of_lt_of_le ha e1.1)
  refine ⟨a2.1.trans a1.1, fun i hi => ?_⟩
  rw [a2.2 i (fun hw => hi (w a i ha hw)), a1.2 i hi]

theorem ext_weaken (e : Ext h h' W) (w : ∀ a i, a < h.length → W a i → W' a i) : Ext h h' W' :=
  ext_trans ext_refl e w

theorem ext_read (e : Ext h h' W) {t : Slice} (hv : Valid h t)
    (hw : ∀ i, i < t.len → ¬ W t.arr i) : read h' t = read h t ∧ Valid h' t := by
  rcases old_of_valid hv with hc | ha
  · have hl : t.len = 0 := Nat.le_zero.mp (hc ▸ hv.1)
    exact ⟨by rw [read_len0 hl, read_len0 hl], by simp [Valid, hc, hl]⟩
  · have := e.2 t.arr ha
    refine ⟨List.ext_getElem? fun i => ?_, hv.1, this.1 ▸ hv.2⟩
    simp only [read, List.getElem?_take]
    split
    · exact this.2 i (hw i ‹_›)
    · rfl

abbrev Frozen (h h' : Heap) : Prop := Ext h h' (fun _ _ => False)

theorem Frozen.ext (e : Frozen h h') (W : Nat → Nat → Prop) : Ext h h' W :=
  ext_weaken e fun _ _ _ hf => hf.elim

theorem frozen_read (e : Frozen h h') {t : Slice} (hv : Valid h t) : read h' t = read h t ∧ Valid h' t :=
  ext_read e hv (fun _ _ hf => hf)

end

/-! ### new, or grown in place (`Own`, `FreshOr`) -/

section
variable {n0 n1 : Nat} {s s' : Slice}

theorem not_spare_own (ho : Own n0 s) {a i : Nat} (ha : a < n0) : ¬ spare s a i := by
  rintro ⟨rfl, _, hc⟩
  rcases ho with h | h
  · exact Nat.not_lt_zero i (h ▸ hc)
  · exact Nat.not_lt.mpr h ha

theorem freshOr_iff {old new : Slice} :
    FreshOr n0 old new ↔ Own n0 new ∨ (new.arr = old.arr ∧ new.cap = old.cap ∧ old.len ≤ new.len) :=
  or_assoc.symm

theorem freshOr_refl : FreshOr n0 s s := Or.inr (Or.inr ⟨rfl, rfl, Nat.le_refl _⟩)

theorem own_grown (ho : Own n0 s) (hn : n0 ≤ n1) (hf : FreshOr n1 s s') : Own n0 s' := by
  rcases freshOr_iff.mp hf with ho' | ⟨ha, hc, _⟩
  · exact ho'.imp_right (Nat.le_trans hn)
  · rw [Own, hc, ha]; exact ho

theorem freshOr_trans {a b c : Slice} (hn : n0 ≤ n1) (h1 : FreshOr n0 a b) (h2 : FreshOr n1 b c) :
    FreshOr n0 a c := by
  rcases freshOr_iff.mp h1 with ho | ⟨ha', hc', hl'⟩
  · exact freshOr_iff.mpr (Or.inl (own_grown ho hn h2))
  · rcases freshOr_iff.mp h2 with ho | ⟨ha, hc, hl⟩
    · exact freshOr_iff.mpr (Or.inl (ho.imp_right (Nat.le_trans hn)))
    · exact Or.inr (Or.inr ⟨ha.trans ha', hc.trans hc', Nat.le_trans hl' hl⟩)

theorem spare_of_freshOr {old new : Slice} (hf : FreshOr n0 old new) {a i : Nat} (ha : a < n0)
    (hs : spare new a i) : spare old a i := by
  rcases freshOr_iff.mp hf with ho | ⟨ha', hc', hl'⟩
  · exact (not_spare_own ho ha hs).elim
  · obtain ⟨rfl, hl, hc⟩ := hs
    exact ⟨ha', Nat.le_trans hl' hl, hc' ▸ hc⟩

end

/-! ### `alloc` and `append` -/

section
variable (pol : Pol) (h : Heap) (s : Slice) (xs : List H)

theorem alloc_frozen : Frozen h (alloc pol h xs).1 :=
  ⟨by simp [alloc], fun a ha => by simp only [alloc]; rw [cells_append_lt h _ ha]; exact ⟨rfl, fun _ _ => rfl⟩⟩

theorem alloc_valid : Valid (alloc pol h xs).1 (alloc pol h xs).2 := by
  simp [alloc, Valid, cells_append_eq]

theorem alloc_read : read (alloc pol h xs).1 (alloc pol h xs).2 = xs := by
  simp [alloc, read, cells_append_eq]

theorem allocExact_eq : allocExact h xs = alloc ⟨fun _ => 0, 0⟩ h xs := by
  simp [allocExact, alloc]

theorem argSlice_spec :
    Frozen h (argSlice pol h xs).1 ∧ read (argSlice pol h xs).1 (argSlice pol h xs).2 = xs ∧
    (argSlice pol h xs).2.len = xs.length := by
  fun_cases argSlice pol h xs with
  | case1 hx => exact ⟨ext_refl, by rw [read_nil, hx], by rw [hx]; rfl⟩
  | case2 => exact ⟨alloc_frozen pol h xs, alloc_read pol h xs, rfl⟩

/-- what `append(s, xs...)` returns, seen from a heap `h` in which `s` was valid -/
structure Grown (h : Heap) (s : Slice) (xs : List H) (r : Heap × Slice) : Prop where
  ext : Ext h r.1 (spare s)
  valid : Valid r.1 r.2
  read : read r.1 r.2 = read h s ++ xs
  fresh : FreshOr h.length s r.2

theorem grown_nil {h : Heap} {s : Slice} (hv : Valid h s) : Grown h s [] (h, s) :=
  ⟨ext_refl, hv, (List.append_nil _).symm, freshOr_refl⟩

theorem grown_alloc : Grown h s xs (alloc pol h (read h s ++ xs)) :=
  ⟨(alloc_frozen pol h _).ext _, alloc_valid pol h _, alloc_read pol h _, Or.inr (Or.inl (Nat.le_refl _))⟩

theorem appendS_spec (hv : Valid h s) : Grown h s xs (appendS pol h s xs) := by
  fun_cases appendS pol h s xs with
  | case2 => exact grown_alloc pol h s xs
  | case1 hfit =>
    have hcl : s.len + xs.length ≤ (cells h s.arr).length := Nat.le_trans hfit hv.2
    have hl := writeAt_length hcl
    have hc := cells_set_self hl
    refine ⟨⟨by simp, fun a _ => ?_⟩, ⟨hfit, ?_⟩, ?_, Or.inr (Or.inr ⟨rfl, rfl, Nat.le_add_right _ _⟩)⟩
    · by_cases hab : s.arr = a
      · subst hab
        rw [hc]
        -- a cell outside `spare s` lies below `s.len` or not below `s.cap`
        exact ⟨hl, fun i hi => writeAt_outside hcl <| (Nat.lt_or_ge i s.len).imp_right fun hge =>
          Nat.le_trans hfit (Nat.le_of_not_lt fun hlt => hi ⟨rfl, hge, hlt⟩)⟩
      · rw [cells_set_ne h _ hab]
        exact ⟨rfl, fun _ _ => rfl⟩
    · rw [hc, hl]
      exact hv.2
    · rw [read, hc]
      exact writeAt_take hcl

end

/-- `append(s, xs...)` as the code calls it: `appendS` after `argSlice` -/
theorem appendArg_spec (pol : Pol) {h : Heap} {s : Slice} (hv : Valid h s) (xs : List H) :
    Grown h s xs (appendS pol (argSlice pol h xs).1 s (read (argSlice pol h xs).1 (argSlice pol h xs).2)) := by
  obtain ⟨e, hr, _⟩ := argSlice_spec pol h xs
  rw [hr]
  have rs := frozen_read e hv
  have g := appendS_spec pol _ s xs rs.2
  exact ⟨ext_trans (e.ext _) g.ext fun _ _ _ hs => hs, g.valid, by rw [g.read, rs.1],
    freshOr_trans e.1 freshOr_refl g.fresh⟩

/-! ### the state invariant and what a statement may do (`Inv`, `Step`)

  Steps compose, and a step is all `Group` needs to know of its body to put the SAVED slice back (`leave_sim`). -/

theorem inv_init : Inv HS.init :=
  ⟨valid_nil, valid_nil, List.forall_mem_nil _, Or.inl rfl, List.forall_mem_nil _, List.forall_mem_nil _⟩

theorem disj_symm {s t : Slice} (h : Disj s t) : Disj t s := by
  rcases h with h | h | h
  · exact Or.inr (Or.inl h)
  · exact Or.inl h
  · exact Or.inr (Or.inr (Ne.symm h))

theorem disj_own_old {h : Heap} {s t : Slice} (ho : Own h.length s) (hv : Valid h t) : Disj s t := by
  rcases ho with h0 | hn
  · exact Or.inl h0
  · exact Or.inr ((old_of_valid hv).imp_right fun hlt => Nat.ne_of_gt (Nat.lt_of_lt_of_le hlt hn))

theorem disj_of_freshOr {h : Heap} {s s' t : Slice} (hf : FreshOr h.length s s') (hd : Disj t s)
    (hv : Valid h t) : Disj t s' := by
  rcases freshOr_iff.mp hf with ho | ⟨ha, hc, _⟩
  · exact disj_symm (disj_own_old ho hv)
  · rw [Disj, ha, hc]; exact hd

/-- `h`: `t` lies in another array, or is `s` itself (then its shown cells are below `s.len`) -/
theorem not_spare {s t : Slice} (ht : t.len ≤ t.cap) (h : Disj t s ∨ t = s) {i : Nat} (hi : i < t.len) :
    ¬ spare s t.arr i := by
  rintro ⟨ha, hl, hc⟩
  rcases h with (h | h | h) | rfl
  · exact Nat.not_lt_zero i (h ▸ Nat.lt_of_lt_of_le hi ht)
  · exact Nat.not_lt_zero i (h ▸ hc)
  · exact h ha
  · exact Nat.not_lt.mpr hl hi

theorem not_wr {st : HS} {t : Slice} (ht : t.len ≤ t.cap) (h1 : Disj t st.grp ∨ t = st.grp)
    (h2 : Disj t st.globals ∨ t = st.globals) {i : Nat} (hi : i < t.len) : ¬ Wr st t.arr i :=
  fun hw => hw.elim (not_spare ht h1 hi) (not_spare ht h2 hi)

section
variable {st : HS} (hi : Inv st)
include hi

section
variable {h' : Heap} (e : Ext st.heap h' (Wr st))
include e

theorem inv_read_grp : read h' st.grp = read st.heap st.grp ∧ Valid h' st.grp :=
  ext_read e hi.vgrp fun _ => not_wr hi.vgrp.1 (Or.inr rfl) (Or.inl hi.dgg)

theorem inv_read_glob : read h' st.globals = read st.heap st.globals ∧ Valid h' st.globals :=
  ext_read e hi.vglob fun _ => not_wr hi.vglob.1 (Or.inl (disj_symm hi.dgg)) (Or.inr rfl)

theorem inv_read_route {r : HRoute} (hr : r ∈ st.routes) :
    read h' r.handlers = read st.heap r.handlers ∧ Valid h' r.handlers :=
  ext_read e (hi.vroutes r hr) fun _ => not_wr (hi.vroutes r hr).1 (Or.inl (hi.drg r hr)) (Or.inl (hi.drl r hr))

theorem abs_routes : st.routes.map (HRoute.abs h') = st.abs.routes :=
  List.map_congr_left fun r hr => by simp only [HRoute.abs, (inv_read_route hi e hr).1]

/-- a step that registers nothing -/
theorem step_slices {g' l' : Slice} (vg : Valid h' g') (vl : Valid h' l') (fg : FreshOr st.heap.length st.grp g')
    (fl : FreshOr st.heap.length st.globals l') (d : Disj g' l') (pfx : Bytes) (nf na : List H) :
    Step st ⟨h', pfx, g', l', nf, na, st.routes⟩ ∧
    (⟨h', pfx, g', l', nf, na, st.routes⟩ : HS).abs = ⟨⟨pfx, read h' g', read h' l', nf, na⟩, st.abs.routes⟩ :=
  ⟨{ ext := e
     inv := { vgrp := vg, vglob := vl, vroutes := fun _ hr => (inv_read_route hi e hr).2, dgg := d
              drg := fun r hr => disj_of_freshOr fg (hi.drg r hr) (hi.vroutes r hr)
              drl := fun r hr => disj_of_freshOr fl (hi.drl r hr) (hi.vroutes r hr) }
     routes := ⟨[], (List.append_nil _).symm, List.forall_mem_nil _⟩
     fgrp := fg, fglob := fl },
   by simp only [HS.abs, abs_routes hi e]⟩

end

theorem step_scope (pfx : Bytes) (nf na : List H) :
    Step st ⟨st.heap, pfx, st.grp, st.globals, nf, na, st.routes⟩ :=
  (step_slices hi ext_refl hi.vgrp hi.vglob freshOr_refl freshOr_refl hi.dgg pfx nf na).1

theorem step_refl : Step st st := step_scope hi st.pfx st.noRoute st.noAllowed

theorem step_grp {xs : List H} {r : Heap × Slice} (g : Grown st.heap st.grp xs r)
    (pfx : Bytes) :
    Step st { st with heap := r.1, pfx := pfx, grp := r.2 } ∧
    ({ st with heap := r.1, pfx := pfx, grp := r.2 } : HS).abs = { st.abs with pfx := pfx, grp := st.abs.grp ++ xs } := by
  have e : Ext st.heap r.1 (Wr st) := ext_weaken g.ext fun _ _ _ => Or.inl
  have rl := inv_read_glob hi e
  have := step_slices hi e g.valid rl.2 g.fresh freshOr_refl
    (disj_symm (disj_of_freshOr g.fresh (disj_symm hi.dgg) hi.vglob)) pfx st.noRoute st.noAllowed
  rw [rl.1, g.read] at this
  exact this

theorem step_glob {xs : List H} {r : Heap × Slice} (g : Grown st.heap st.globals xs r) :
    Step st { st with heap := r.1, globals := r.2 } ∧
    ({ st with heap := r.1, globals := r.2 } : HS).abs = { st.abs with globals := st.abs.globals ++ xs } := by
  have e : Ext st.heap r.1 (Wr st) := ext_weaken g.ext fun _ _ _ => Or.inr
  have rg := inv_read_grp hi e
  have := step_slices hi e rg.2 g.valid freshOr_refl g.fresh (disj_of_freshOr g.fresh hi.dgg hi.vgrp)
    st.pfx st.noRoute st.noAllowed
  rw [rg.1, g.read] at this
  exact this

end

theorem step_read_glob {st st' : HS} (hi : Inv st) (hs : Step st st') :
    read st'.heap st.globals = read st.heap st.globals ∧ Valid st'.heap st.globals :=
  inv_read_glob hi hs.ext

theorem step_trans {st st1 st2 : HS} (h1 : Step st st1) (h2 : Step st1 st2) : Step st st2 := by
  obtain ⟨n1, e1, f1⟩ := h1.routes
  obtain ⟨n2, e2, f2⟩ := h2.routes
  refine ⟨ext_trans h1.ext h2.ext fun _ _ ha hw => ?_, h2.inv,
    ⟨n1 ++ n2, by rw [e2, e1, List.append_assoc], List.forall_mem_append.mpr ⟨f1, fun r hr => ?_⟩⟩,
    freshOr_trans h1.ext.1 h1.fgrp h2.fgrp, freshOr_trans h1.ext.1 h1.fglob h2.fglob⟩
  · exact hw.imp (spare_of_freshOr h1.fgrp ha) (spare_of_freshOr h1.fglob ha)
  · exact (f2 r hr).imp_right (Nat.le_trans h1.ext.1)

/-! ### refinement of one operation -/

/-- the slice-level outcome `x` refines the list-level `y`: `y` returns what a result of `x` shows (`f`), panics agree -/
def Sim {α β : Type} (R : α → Prop) (f : α → β) (x : Except Err α) (y : Except Err β) : Prop :=
  (∀ a, x = .ok a → R a ∧ y = .ok (f a)) ∧ (∀ e, x = .error e → y = .error e)

section
variable {α β : Type} {R R' : α → Prop} {f : α → β} {x : Except Err α} {y : Except Err β}

theorem sim_ok {a : α} {b : β} (h : R a) (hf : f a = b) : Sim R f (.ok a) (.ok b) :=
  And.intro (fun _ e => by cases e; exact ⟨h, by rw [hf]⟩) nofun

theorem sim_error (e : Err) : Sim R f (.error e) (.error e) :=
  And.intro nofun (fun _ h => by cases h; rfl)

@[elab_as_elim]
theorem Sim.elim {P : Except Err α → Except Err β → Prop} (h : Sim R f x y)
    (error : ∀ e, P (.error e) (.error e)) (ok : ∀ a, R a → P (.ok a) (.ok (f a))) : P x y := by
  cases x with
  | error e => rw [h.2 e rfl]; exact error e
  | ok a => rw [(h.1 a rfl).2]; exact ok a (h.1 a rfl).1

theorem Sim.mono (h : Sim R f x y) (hR : ∀ a, R a → R' a) : Sim R' f x y :=
  And.intro (fun a e => ⟨hR a (h.1 a e).1, (h.1 a e).2⟩) h.2

theorem sim_ite {c c' : Prop} [Decidable c] [Decidable c'] (hc : c ↔ c') {x' : Except Err α} {y' : Except Err β}
    (ht : Sim R f x y) (he : Sim R f x' y') : Sim R f (if c then x else x') (if c' then y else y') := by
  by_cases h : c
  · rwa [if_pos h, if_pos (hc.mp h)]
  · rwa [if_neg h, if_neg (mt hc.mpr h)]
end

/-! ### building the handler slice of one route

  `h0` is the heap when the registration started: nothing that existed then is written. -/

structure Building (h0 : Heap) (r : Heap × Slice) : Prop where
  frozen : Frozen h0 r.1
  valid : Valid r.1 r.2
  own : Own h0.length r.2

section
variable (pol : Pol) (cfg : Cfg)

theorem hRouteUse_sim (limit : Nat) {h0 h : Heap} {s : Slice} (b : Building h0 (h, s)) (mw : List H) :
    Sim (Building h0) (fun r => read r.1 r.2) (hRouteUse pol limit h s mw) (routeUse limit (read h s) mw) := by
  have g := appendArg_spec pol b.valid mw
  have hlim : s.len + mw.length ≥ limit ↔ (read h s).length + mw.length ≥ limit := by rw [read_length b.valid]
  refine sim_ite hlim (sim_error _) (sim_ok ⟨?_, g.valid, ?_⟩ g.read)
  · exact ext_trans b.frozen g.ext fun _ _ => not_spare_own b.own
  · exact own_grown b.own b.frozen.1 g.fresh

theorem hRouteUses_sim (limit : Nat) {h0 : Heap} : ∀ (l : List (List H)) {h : Heap} {s : Slice},
    Building h0 (h, s) →
    Sim (Building h0) (fun r => read r.1 r.2) (hRouteUses pol limit h s l) (routeUses limit (read h s) l)
  | [], _, _, b => sim_ok b rfl
  | mw :: rest, h, s, b => by
    simp only [hRouteUses, routeUses]
    exact (hRouteUse_sim pol limit b mw).elim sim_error fun _ b1 => hRouteUses_sim limit rest b1

theorem hAttach_sim (limit : Nat) {h0 h : Heap} {s : Slice} (b : Building h0 (h, s)) {grp : Slice} (hvg : Valid h grp) :
    Sim (Building h0) (fun r => read r.1 r.2) (hAttach limit h grp s)
      (attachHandlers limit (read h grp) (read h s)) := by
  have hlg := read_length hvg
  have hgrp : grp.len > 0 ↔ read h grp ≠ [] := hlg ▸ List.length_pos_iff
  have hlim : grp.len + s.len ≥ limit ↔ (read h grp ++ read h s).length ≥ limit := by
    rw [List.length_append, hlg, read_length b.valid]
  refine sim_ite hgrp (sim_ite hlim (sim_error _) ?_) (sim_ok b rfl)
  rw [allocExact_eq]
  exact sim_ok ⟨ext_trans b.frozen (alloc_frozen _ h _) fun _ _ _ hf => hf, alloc_valid _ h _, Or.inr b.frozen.1⟩ (alloc_read _ h _)

theorem step_push {st : HS} (hi : Inv st) {h' : Heap} (r : HRoute) (b : Building st.heap (h', r.handlers)) :
    Step st { st with heap := h', routes := st.routes ++ [r] } ∧
    ({ st with heap := h', routes := st.routes ++ [r] } : HS).abs = st.abs.plus ([r.abs h'], st.abs.toScope) := by
  obtain ⟨e, hv, ho⟩ := b
  have e' : Ext st.heap h' (Wr st) := e.ext _
  have rg := frozen_read e hi.vgrp
  have rl := frozen_read e hi.vglob
  refine ⟨{ ext := e', inv := { vgrp := rg.2, vglob := rl.2, vroutes := ?_, dgg := hi.dgg, drg := ?_, drl := ?_ }
            routes := ⟨[r], rfl, List.forall_mem_singleton.mpr ho⟩, fgrp := freshOr_refl, fglob := freshOr_refl }, ?_⟩
  · exact List.forall_mem_append.mpr ⟨fun _ hr => (inv_read_route hi e' hr).2, List.forall_mem_singleton.mpr hv⟩
  · exact List.forall_mem_append.mpr ⟨hi.drg, List.forall_mem_singleton.mpr (disj_own_old ho hi.vgrp)⟩
  · exact List.forall_mem_append.mpr ⟨hi.drl, List.forall_mem_singleton.mpr (disj_own_old ho hi.vglob)⟩
  · simp only [HS.abs, RS.plus, List.map_append, abs_routes hi e', rg.1, rl.1, List.map]

theorem hAddRoute_sim {st : HS} (d : RouteDef) (hi : Inv st) :
    Sim (Step st) HS.abs (hAddRoute pol cfg st d) (addRoute cfg st.abs d) := by
  have b0 : Building st.heap (st.heap, Slice.nil) := ⟨ext_refl, valid_nil, Or.inl rfl⟩
  have s0 := hRouteUses_sim pol cfg.limit d.pre b0
  unfold hAddRoute addRoute
  refine s0.elim sim_error fun r0 b0 => ?_
  dsimp only
  have rg := frozen_read b0.frozen hi.vgrp
  have s1 := hAttach_sim cfg.limit b0 rg.2
  rw [rg.1] at s1
  refine s1.elim sim_error fun r1 b1 => ?_
  dsimp only
  refine (hRouteUses_sim pol cfg.limit d.post b1).elim sim_error fun r2 b2 => ?_
  have := step_push hi { id := d.id, main := d.main, name := d.name, methods := d.methods
                         path := storedPath cfg st.pfx d.path, handlers := r2.2 } b2
  exact sim_ok this.1 this.2

theorem hAddRoutes_sim : ∀ (ds : List RouteDef) (st : HS), Inv st →
    Sim (Step st) HS.abs (hAddRoutes pol cfg st ds) (addRoutes cfg st.abs ds)
  | [], _, hi => sim_ok (step_refl hi) rfl
  | d :: rest, st, hi => by
    simp only [hAddRoutes, addRoutes]
    exact (hAddRoute_sim pol cfg d hi).elim sim_error fun st1 s1 =>
      (hAddRoutes_sim rest st1 s1.inv).mono fun _ => step_trans s1

theorem hUse_sim {st : HS} (hs : List H) (hi : Inv st) :
    Step st (hUse pol st hs) ∧ (hUse pol st hs).abs = { st.abs with toScope := useScope st.abs.toScope hs } := by
  unfold hUse useScope
  simp only [show st.abs.pfx = st.pfx from rfl]
  split
  · exact step_grp hi (appendArg_spec pol hi.vgrp hs) st.pfx
  · exact step_glob hi (appendArg_spec pol hi.vglob hs)

theorem hEnter_sim {st : HS} (p : Bytes) (mws : List H) (hi : Inv st) :
    Step st (hEnter pol cfg st p mws) ∧ (hEnter pol cfg st p mws).abs = st.abs.enter cfg p mws := by
  have ha := argSlice_spec pol st.heap mws
  rw [RS.enter, enterScope_eq]
  unfold hEnter
  simp only [ha.2.2]
  by_cases hm : mws.length > 0
  · rw [if_pos hm]
    by_cases hg : st.grp.len > 0
    · rw [if_pos hg]
      exact step_grp hi (appendArg_spec pol hi.vgrp mws) _
    · -- the argument slice itself becomes the group slice
      rw [if_neg hg]
      have g := grown_alloc pol st.heap st.grp mws
      rw [read_len0 (Nat.eq_zero_of_not_pos hg), List.nil_append,
        ← show argSlice pol st.heap mws = _ from if_neg (List.length_pos_iff.mp hm)] at g
      exact step_grp hi g _
  · -- no middleware: nothing is allocated
    obtain rfl : mws = [] := List.length_eq_zero_iff.mp (Nat.eq_zero_of_not_pos hm)
    exact step_grp hi (grown_nil hi.vgrp) _

/-- `Group` returns: the saved slice shows what it showed when it was saved -/
theorem leave_sim {st st2 : HS} (hi : Inv st) (hs : Step st st2) :
    Step st (st.leave st2) ∧ (st.leave st2).abs = st.abs.leave st2.abs := by
  have rg := inv_read_grp hi hs.ext
  obtain ⟨new, hnew, hfresh⟩ := hs.routes
  refine ⟨{ hs with
    inv := { hs.inv with vgrp := rg.2, dgg := disj_of_freshOr hs.fglob hi.dgg hi.vgrp, drg := ?_ }
    fgrp := freshOr_refl }, ?_⟩
  · show ∀ r, r ∈ st2.routes → _
    rw [hnew]
    exact List.forall_mem_append.mpr ⟨hi.drg, fun r hr => disj_own_old (hfresh r hr) hi.vgrp⟩
  · simp only [HS.leave, HS.abs, RS.leave, rg.1]

/-- `hbody`/`lbody`: `Group`, `Controller`, `Resource` share the lemma; the `match`es are what `hexec`/`exec` unfold to -/
theorem group_sim {st : HS} (p : Bytes) (mws : List H) (hi : Inv st)
    (hbody : HS → Except Err HS) (lbody : RS → Except Err RS)
    (ih : ∀ st1, Inv st1 → Sim (Step st1) HS.abs (hbody st1) (lbody st1.abs)) :
    Sim (Step st) HS.abs
      (match hbody (hEnter pol cfg st p mws) with | .ok st2 => .ok (st.leave st2) | .error e => .error e)
      (match lbody (st.abs.enter cfg p mws) with | .ok st2 => .ok (st.abs.leave st2) | .error e => .error e) := by
  have he := hEnter_sim pol cfg p mws hi
  have ih := ih _ he.1.inv
  rw [he.2] at ih
  refine ih.elim sim_error fun st2 s2 => ?_
  have hl := leave_sim hi (step_trans he.1 s2)
  exact sim_ok hl.1 hl.2

end

-- `hexec_sim` is `Sim (Step st) HS.abs (hexec pol cfg st s) (exec cfg st.abs s)` written out
mutual
theorem hexec_sim (pol : Pol) (cfg : Cfg) (st : HS) (hi : Inv st) : (s : Stmt) →
    (∀ st', hexec pol cfg st s = .ok st' → Step st st' ∧ exec cfg st.abs s = .ok st'.abs) ∧
    (∀ e, hexec pol cfg st s = .error e → exec cfg st.abs s = .error e)
  | .use hs => sim_ok (hUse_sim pol hs hi).1 (hUse_sim pol hs hi).2
  | .route d => hAddRoute_sim pol cfg d hi
  | .group p mws body | .controller p mws body =>
    group_sim pol cfg p mws hi (hexecList pol cfg · body) (execList cfg · body)
      fun st1 hi1 => hexecList_sim pol cfg st1 hi1 body
  | .resource rd mws =>
    sim_ite Iff.rfl (sim_error _) <|
      group_sim pol cfg _ mws hi (hAddRoutes pol cfg · (restRoutes rd)) (addRoutes cfg · (restRoutes rd))
        (hAddRoutes_sim pol cfg (restRoutes rd))
  | .notFound _ | .notAllowed _ => sim_ok (step_scope hi _ _ _) rfl
theorem hexecList_sim (pol : Pol) (cfg : Cfg) (st : HS) (hi : Inv st) : (l : List Stmt) →
    Sim (Step st) HS.abs (hexecList pol cfg st l) (execList cfg st.abs l)
  | [] => sim_ok (step_refl hi) rfl
  | s :: rest => by
    simp only [hexecList, execList]
    exact Sim.elim (hexec_sim pol cfg st hi s) sim_error fun st1 s1 =>
      (hexecList_sim pol cfg st1 s1.inv rest).mono fun _ => step_trans s1
end

end Rux.Reg
