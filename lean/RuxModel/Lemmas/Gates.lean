import RuxModel.Model.Gates
import RuxModel.Lemmas.Bytes
/-
  Defines what the C20 statements are written in: `specStep`, `onion`, `Flat`, `hasAbort`, `emits`, `nest`.  That the
  cursor loop computes `onion` is proved as in Lemmas/Chain.lean, here for the chain model of Model/Gates §5; the
  sections after it (handlers without `Next`, the `WrapHTTPHandlers` fold, the two gates, base64) do not use it.
-/
namespace Rux.Gates

/-- accumulator step of the specification: `(events of this handler, called Next?, aborted?)`;
    `R` is what the rest of the chain produces when it runs -/
def specStep (i : Nat) (R : List Ev × Bool) (acc : List Ev × Bool × Bool) (a : Act) : List Ev × Bool × Bool :=
  match a with
  | .emit o => (acc.1 ++ [.out i o], acc.2.1, acc.2.2)
  | .abort => (acc.1, acc.2.1, true)
  | .next => if !acc.2.1 && !acc.2.2 then (acc.1 ++ R.1, true, R.2) else acc

/-- the trace of the chain from position `i` on, and whether the chain ends aborted -/
def onion : Nat → List Handler → List Ev × Bool
  | _, [] => ([], false)
  | i, h :: rest =>
    let R := onion (i+1) rest
    let acc := h.foldl (specStep i R) ([], false, false)
    if !acc.2.1 && !acc.2.2 then ([Ev.enter i] ++ acc.1 ++ [.leave i] ++ R.1, R.2)
    else ([Ev.enter i] ++ acc.1 ++ [.leave i], acc.2.2)

/-! ### the cursor loop of `Context.Next` computes `onion` -/

/-- the cursor while handler `i` of `s` is active, from the two flags of `specStep`; `s - 1` is where the loop of the
    handler's own `Next()` stopped.  In the first two cases the test `index < s - 1` of a further `Next()` fails
    (after an abort since `s ≤ 63 = abortIndex`). -/
def idxOf (s i : Nat) (started ab : Bool) : Int :=
  if ab then abortIndex else if started then (s : Int) - 1 else i

theorem next_done {hs : List Handler} {f : Nat} {j : Int} {tr : List Ev} (h : ¬ j < (hs.length : Int) - 1) :
    next hs (f+1) ⟨j, tr⟩ = some ⟨j, tr⟩ := by
  rw [next]; simp [h]

theorem next_step {hs : List Handler} {f i : Nat} {j : Int} {tr : List Ev} {st : St} (hj : j + 1 = i)
    (hi : i < hs.length) (h : run hs f i hs[i] ⟨i, tr ++ [.enter i]⟩ = some st) :
    next hs (f + 1) ⟨j, tr⟩ = next hs f { st with trace := st.trace ++ [.leave i] } := by
  have hlt : j < (hs.length : Int) - 1 := by omega
  rw [next]
  simp [hlt, hj, hi, h]

section
-- `hfresh`: a `Next()` with the cursor still at `i` runs the rest, `R`
variable {hs : List Handler} (hlen : hs.length ≤ 63) {f i : Nat} {R : List Ev × Bool}
  (hfresh : ∀ tr, next hs (f + 1) ⟨(i : Int), tr⟩ = some ⟨idxOf hs.length i true R.2, tr ++ R.1⟩)
include hlen hfresh

theorem next_at (started ab : Bool) (tr : List Ev) :
    next hs (f + 1) ⟨idxOf hs.length i started ab, tr⟩ =
      some (if !started && !ab then ⟨idxOf hs.length i true R.2, tr ++ R.1⟩
        else ⟨idxOf hs.length i started ab, tr⟩) := by
  cases started <;> cases ab
  · exact hfresh tr
  all_goals exact next_done (by simp [idxOf, abortIndex] <;> omega)

theorem run_spec (acts : List Act) (pre : List Ev) (acc : List Ev × Bool × Bool) :
    run hs (f + 1) i acts ⟨idxOf hs.length i acc.2.1 acc.2.2, pre ++ acc.1⟩ =
      some ⟨idxOf hs.length i (acts.foldl (specStep i R) acc).2.1 (acts.foldl (specStep i R) acc).2.2,
            pre ++ (acts.foldl (specStep i R) acc).1⟩ := by
  induction acts generalizing acc with
  | nil => rw [run]; rfl
  | cons a rest ih =>
    rw [List.foldl_cons, ← ih]
    cases a with
    | emit o => rw [run]; simp only [specStep, List.append_assoc]
    | abort => rw [run]; rfl
    | next =>
      rw [run, next_at hlen hfresh]
      simp only [specStep]
      split <;> simp only [List.append_assoc]

end

/-- `k` handlers remain, `d` is spare fuel -/
theorem next_eq_onion (hs : List Handler) (hlen : hs.length ≤ 63) (d k i : Nat) (j : Int)
    (hik : i + k = hs.length) (hj : j + 1 = i) (tr : List Ev) :
    next hs (d + k + 1) ⟨j, tr⟩ =
      some ⟨idxOf hs.length i true (onion i (hs.drop i)).2, tr ++ (onion i (hs.drop i)).1⟩ := by
  induction k generalizing i j tr with
  | zero =>
    obtain rfl : i = hs.length := hik
    rw [next_done (by omega)]
    simp [onion, idxOf, ← hj]
  | succ k ih =>
    rw [← Nat.add_assoc]
    have hi : i < hs.length := by omega
    have hfresh := fun tr => ih (i + 1) i ((Nat.succ_add_eq_add_succ i k).trans hik) rfl tr
    -- handler `i` does what `specStep` says, a `Next()` in it by `hfresh`
    have hrun := run_spec hlen hfresh hs[i] (tr ++ [.enter i]) ([], false, false)
    rw [List.append_nil] at hrun
    rw [next_step hj hi hrun, List.drop_eq_getElem_cons hi, onion]
    -- after the handler has returned: `leave i`, then the loop test once more
    rw [next_at hlen hfresh]
    generalize hs[i].foldl _ _ = acc
    obtain ⟨ev, started, ab⟩ := acc
    cases started <;> cases ab <;> simp [idxOf]

theorem chain_runs_onion (hs : List Handler) (hlen : hs.length ≤ 63) :
    ∃ f0, ∀ f, f0 ≤ f → serve hs f = some (onion 0 hs).1 :=
  ⟨hs.length + 1, fun f hf => by
    obtain ⟨d, rfl⟩ : ∃ d, f = d + hs.length + 1 := ⟨f - (hs.length + 1), by omega⟩
    simp [serve, next_eq_onion hs hlen d hs.length 0 (-1) (Nat.zero_add _) rfl []]⟩

/-! ### handlers that never call `Next` -/

def Flat (h : Handler) : Prop := Act.next ∉ h

def hasAbort (h : Handler) : Bool := h.any fun a => match a with | .abort => true | _ => false

def emits (i : Nat) : Handler → List Ev
  | [] => []
  | .emit o :: t => .out i o :: emits i t
  | _ :: t => emits i t

theorem foldl_specStep_flat (i : Nat) (R : List Ev × Bool) (h : Handler) (hf : Flat h) (tr : List Ev) (ab : Bool) :
    h.foldl (specStep i R) (tr, false, ab) = (tr ++ emits i h, false, ab || hasAbort h) := by
  induction h generalizing tr ab with
  | nil => simp [emits, hasAbort]
  | cons a t ih =>
    have hft : Flat t := fun hm => hf (List.mem_cons_of_mem _ hm)
    cases a with
    | next => exact absurd List.mem_cons_self hf
    | _ =>
      simp only [List.foldl_cons, specStep]
      rw [ih hft]
      simp [emits, hasAbort]

/-- the rest of the chain runs from the enclosing `Next` loop, iff the handler did not abort -/
theorem onion_flat (i : Nat) (h : Handler) (rest : List Handler) (hf : Flat h) :
    onion i (h :: rest) =
      if hasAbort h then ([Ev.enter i] ++ emits i h ++ [Ev.leave i], true)
      else ([Ev.enter i] ++ emits i h ++ [Ev.leave i] ++ (onion (i+1) rest).1, (onion (i+1) rest).2) := by
  simp only [onion]
  rw [foldl_specStep_flat i _ h hf]
  cases hasAbort h <;> simp

theorem emits_wrapHTTPHandler (i : Nat) (effects : List Out) :
    emits i (wrapHTTPHandler effects) = effects.map (Ev.out i) := by
  induction effects with
  | nil => rfl
  | cons o t ih => exact congrArg (.out i o :: ·) ih

/-- every event of the onion of a chain starting at position `i` belongs to a position `≥ i`, and a
    non-empty chain starts with `enter i` -/
theorem onion_head (i : Nat) (h : Handler) (rest : List Handler) :
    ∃ t, (onion i (h :: rest)).1 = Ev.enter i :: t := by
  simp only [onion]
  split <;> simp

/-! ### `WrapHTTPHandlers`: the index loop is a right fold -/

/-- `w₁ (w₂ (… (wₙ r)))` -/
def nest {α : Type} (ws : List (α → α)) (r : α) : α := ws.foldr (fun w acc => w acc) r

theorem drop_length_sub_succ {α : Type} {l : List α} {k : Nat} (hk : k < l.length) :
    l.drop (l.length - (k + 1)) = l[l.length - (k + 1)]'(Nat.sub_lt_self k.succ_pos hk) :: l.drop (l.length - k) := by
  have h : l.length - (k + 1) + 1 = l.length - k := by
    rw [Nat.sub_add_eq, Nat.sub_add_cancel (Nat.sub_pos_of_lt hk)]
  rw [List.drop_eq_getElem_cons, h]

theorem wrap_loop {α : Type} (pre : List (α → α)) (r : α) :
    ∀ k, k ≤ pre.length →
      (List.range k).foldl (wrapStep pre r) none =
        if k = 0 then none else some (nest (pre.drop (pre.length - k)) r) := by
  intro k
  induction k with
  | zero => intro _; simp
  | succ k ih =>
    intro hk
    rw [List.range_succ, List.foldl_append, ih (Nat.le_of_succ_le hk), drop_length_sub_succ hk]
    simp only [List.foldl_cons, List.foldl_nil, Nat.succ_ne_zero, if_false, wrapStep, Nat.sub_sub,
      List.getElem?_eq_getElem (Nat.sub_lt_self k.succ_pos hk)]
    cases k <;> simp [nest]  -- the `if i = 0` of `wrapStep`: the first round wraps `r`

theorem nest_append {α : Type} (a b : List (α → α)) (r : α) : nest (a ++ b) r = nest a (nest b r) :=
  List.foldr_append ..

theorem nest_traceW (ks : List Nat) (h : HH) (req : Req) :
    nest (ks.map traceW) h req = ks.map WEv.enter ++ h req ++ ks.reverse.map WEv.leave := by
  induction ks with
  | nil => simp [nest]
  | cons k t ih => simp only [nest, List.map_cons, List.foldr_cons, traceW] at ih ⊢; simp [ih]

/-! ### closed forms of the override rule and of the auth decision -/

theorem toUpper_if_ne_nil (s : Bytes) : (if s ≠ [] then Bytes.toUpper s else s) = Bytes.toUpper s := by
  cases s <;> rfl

theorem methodOverride_eq (method form hdr : Bytes) :
    methodOverride method form hdr =
      if method = POST ∧ (Bytes.toUpper (if form ≠ [] then form else hdr) = PUT ∨
         Bytes.toUpper (if form ≠ [] then form else hdr) = PATCH ∨
         Bytes.toUpper (if form ≠ [] then form else hdr) = DELETE)
      then (Bytes.toUpper (if form ≠ [] then form else hdr), some POST) else (method, none) := by
  unfold methodOverride
  simp only [toUpper_if_ne_nil]
  by_cases hm : method = POST <;> simp [hm]

theorem authDecide_some (accounts : List (Bytes × Bytes)) (u p : Bytes) :
    authDecide accounts (some (u, p)) =
      if accounts = [] ∨ lookup u accounts = some p then .pass else .deny403 := by
  cases accounts with
  | nil => rfl
  | cons a t =>
    simp only [authDecide, List.length_cons, Nat.zero_lt_succ, if_true, reduceCtorEq, false_or]
    cases lookup u (a :: t) <;> simp

theorem basicAuthHandler_some (accounts : List (Bytes × Bytes)) (u p : Bytes) :
    basicAuthHandler accounts (some (u, p)) =
      (if authDecide accounts (some (u, p)) = .pass then [] else abortWithStatus 403) ++
        [.emit (.set kUsername u), .emit (.set kPassword p)] := by
  cases accounts with
  | nil => rfl
  | cons a t =>
    simp only [basicAuthHandler, authDecide, List.length_cons, Nat.zero_lt_succ, if_true]
    cases lookup u (a :: t) with
    | none => rfl
    | some q => by_cases h : q = p <;> simp [h]

/-! ### base64 round trip and the header parser (`Request.BasicAuth`) -/

theorem b64val_chr : ∀ {v}, v < 64 → b64val (b64chr v) = some v := by decide

/-- no character of the alphabet is the padding `=` or a line break -/
theorem b64chr_ne (v : Nat) : b64chr v ≠ 61 ∧ b64chr v ≠ 10 ∧ b64chr v ≠ 13 := by
  fun_cases b64chr v <;> omega

theorem mul_add_digits {m r : Nat} (q : Nat) (h : r < m) :
    (q * m + r) / m = q ∧ (q * m + r) % m = r ∧ ∀ {n}, q < n → q * m + r < n * m :=
  have hi : q * m + r < (q + 1) * m := Nat.succ_mul .. ▸ Nat.add_lt_add_left h _
  ⟨Nat.div_eq_of_lt_le (Nat.le_add_right ..) hi, Nat.mul_add_mod_of_lt h,
    fun hq => Nat.lt_of_lt_of_le hi (Nat.mul_le_mul_right _ hq)⟩

/-- three bytes as four 6-bit values; the padded endings are the cases `c = 0` and `b = c = 0` -/
theorem sextets (a b c : Nat) (ha : a < 256) (hb : b < 256) (hc : c < 256) :
    a / 4 < 64 ∧ a % 4 * 16 + b / 16 < 64 ∧ b % 16 * 4 + c / 64 < 64 ∧ c % 64 < 64 ∧
    (a / 4 * 4 + (a % 4 * 16 + b / 16) / 16) % 256 = a ∧
    ((a % 4 * 16 + b / 16) % 16 * 16 + (b % 16 * 4 + c / 64) / 4) % 256 = b ∧
    ((b % 16 * 4 + c / 64) % 4 * 64 + c % 64) % 256 = c := by
  -- `by omega` proves this too, at six times the cost
  obtain ⟨d2, m2, l2⟩ := mul_add_digits (a % 4) (Nat.div_lt_of_lt_mul hb : b / 16 < 16)
  obtain ⟨d3, m3, l3⟩ := mul_add_digits (b % 16) (Nat.div_lt_of_lt_mul hc : c / 64 < 4)
  refine ⟨Nat.div_lt_of_lt_mul ha, l2 (Nat.mod_lt _ (by decide)), l3 (Nat.mod_lt _ (by decide)),
    Nat.mod_lt _ (by decide), ?_, ?_, ?_⟩
  · rw [d2, Nat.div_add_mod', Nat.mod_eq_of_lt ha]
  · rw [m2, d3, Nat.div_add_mod', Nat.mod_eq_of_lt hb]
  · rw [m3, Nat.div_add_mod', Nat.mod_eq_of_lt hc]

theorem b64encode_chars (s : Bytes) : ∀ c ∈ b64encode s, c ≠ 10 ∧ c ≠ 13 := by
  fun_induction b64encode s <;> simp_all [b64chr_ne]

theorem b64decode_encode (s : Bytes) (h : ∀ b ∈ s, b < 256) : b64decode (b64encode s) = some s := by
  rw [b64decode, List.filter_eq_self.mpr fun c hc => by simp [b64encode_chars s c hc]]
  fun_induction b64encode s with
  | case1 => rfl
  | case2 a =>
    -- the ascriptions drop the `+ 0 / 16`, `+ 0 / 64` of `sextets a 0 0` (defeq)
    obtain ⟨h1, (h2 : a % 4 * 16 < 64), -, -, (e1 : (a / 4 * 4 + a % 4 * 16 / 16) % 256 = a), -⟩ :=
      sextets a 0 0 (h a (by simp)) (by decide) (by decide)
    simp only [b64decodeCore, b64val_chr h1, b64val_chr h2, e1]
  | case3 a b =>
    obtain ⟨h1, h2, (h3 : b % 16 * 4 < 64), -, e1,
        (e2 : ((a % 4 * 16 + b / 16) % 16 * 16 + b % 16 * 4 / 4) % 256 = b), -⟩ :=
      sextets a b 0 (h a (by simp)) (h b (by simp)) (by decide)
    -- side goals: no earlier pattern of `b64decodeCore` applies (here the 3rd, below the 4th character is not `=`)
    rw [b64decodeCore]
    · simp only [b64val_chr h1, b64val_chr h2, b64val_chr h3, e1, e2]
    · exact (b64chr_ne _).1
  | case4 a b c rest ih =>
    obtain ⟨h1, h2, h3, h4, e1, e2, e3⟩ := sextets a b c (h a (by simp)) (h b (by simp)) (h c (by simp))
    rw [b64decodeCore]
    · rw [b64val_chr h1, b64val_chr h2, b64val_chr h3, b64val_chr h4, ih (fun x hx => h x (by simp [hx]))]
      simp only [e1, e2, e3]
    · exact fun _ h _ => (b64chr_ne _).1 h
    · exact fun h _ => (b64chr_ne _).1 h

theorem cutColon_join (u p : Bytes) (hu : 58 ∉ u) : cutColon (u ++ [58] ++ p) = some (u, p) := by
  unfold cutColon
  rw [List.append_assoc, List.singleton_append, Bytes.indexByte_append u p 58 hu]
  simp

theorem parseBasicAuth_append {pre rest : Bytes} (hl : pre.length = 6) :
    parseBasicAuth (pre ++ rest) =
      if equalFold pre basicPrefix then (b64decode rest).bind cutColon else none := by
  have h6 : basicPrefix.length = 6 := rfl
  have hlen : ¬ pre.length + rest.length < pre.length := Nat.not_lt.mpr (Nat.le_add_right ..)
  unfold parseBasicAuth
  rw [h6, ← hl, List.take_left, List.drop_left]
  cases equalFold pre basicPrefix <;> cases b64decode rest <;> simp [hlen]

end Rux.Gates
