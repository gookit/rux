import RuxModel.Model.Regex
/-
  The prioritised matcher answers exactly the lengths of the prefixes that are in the language of the expression
  (`prefixLens_iff`).
-/
namespace Rux

-- `seq` and `star` both answer a list of this shape: `k` for the first part, if it passes `P`, then `m` for the rest
theorem mem_seqLens {la : List Nat} {lb : Nat → List Nat} {P : Nat → Prop} [DecidablePred P] {n : Nat} :
    (n ∈ la.flatMap fun k => if _h : P k then (lb k).map (k + ·) else []) ↔
      ∃ k ∈ la, P k ∧ ∃ m ∈ lb k, k + m = n := by
  simp only [List.mem_flatMap, List.mem_dite_nil_right, List.mem_map, exists_prop]

-- used at `(A, B, C)` = `(Lang a, Lang b, Lang (seq a b))` and `(Lang a, Lang (star a), Lang (star a))`
theorem seqLens_sound {A B C : Bytes → Prop} (hcat : ∀ {u v}, A u → B v → C (u ++ v)) (s : Bytes)
    {la : List Nat} {lb : Nat → List Nat} {P : Nat → Prop} [DecidablePred P]
    (iha : ∀ n ∈ la, n ≤ s.length ∧ A (s.take n))
    (ihb : ∀ n, P n → ∀ m ∈ lb n, m ≤ (s.drop n).length ∧ B ((s.drop n).take m)) :
    ∀ n ∈ (la.flatMap fun k => if _h : P k then (lb k).map (k + ·) else []), n ≤ s.length ∧ C (s.take n) := by
  intro n hn
  obtain ⟨k, hk, hP, m, hm, rfl⟩ := mem_seqLens.mp hn
  obtain ⟨h1, h2⟩ := iha k hk
  obtain ⟨h3, h4⟩ := ihb k hP m hm
  rw [List.length_drop] at h3
  exact ⟨Nat.add_le_of_le_sub' h1 h3, List.take_add ▸ hcat h2 h4⟩

theorem mem_starLens {g : Bool} {more : List Nat} {n : Nat} :
    n ∈ (if g then more ++ [0] else 0 :: more) ↔ n = 0 ∨ n ∈ more := by
  cases g
  · exact List.mem_cons
  · exact List.mem_append.trans (Or.comm.trans (or_congr_left List.mem_singleton))

theorem prefixLens_sound (r : Re) (s : Bytes) :
    ∀ n ∈ prefixLens r s, n ≤ s.length ∧ Lang r (s.take n) := by
  fun_induction prefixLens r s with
  | case1 s => intro n hn; cases List.mem_singleton.mp hn; exact ⟨Nat.zero_le _, Lang.eps⟩
  | case2 p c t hp => intro n hn; cases List.mem_singleton.mp hn; exact ⟨Nat.le_add_left 1 _, Lang.chr hp⟩
  | case3 | case4 => exact fun _ => nofun
  -- in `case5`, `case7`, `case8` the hypothesis for the rest comes before the one for the first part
  | case5 s a b ihb iha => exact seqLens_sound Lang.seq s iha ihb
  | case6 s a b iha ihb =>
    intro n hn
    rcases List.mem_append.mp hn with h | h
    · exact ⟨(iha n h).1, Lang.altL (iha n h).2⟩
    · exact ⟨(ihb n h).1, Lang.altR (ihb n h).2⟩
  | case7 s a more ihs iha =>
    intro n hn
    rcases (mem_starLens (g := true)).mp hn with rfl | h
    · exact ⟨Nat.zero_le _, Lang.starNil⟩
    · exact seqLens_sound Lang.starCons s iha ihs n h
  | case8 s a g more hg ihs iha =>
    intro n hn
    rcases (mem_starLens (g := false)).mp hn with rfl | h
    · exact ⟨Nat.zero_le _, Lang.starNil⟩
    · exact seqLens_sound Lang.starCons s iha ihs n h

theorem prefixLens_complete {r : Re} {u : Bytes} (h : Lang r u) :
    ∀ t, u.length ∈ prefixLens r (u ++ t) := by
  induction h with
  | eps => intro t; rw [prefixLens]; simp
  | chr hp => intro t; rw [prefixLens.eq_def]; simp [hp]
  | @seq a b s t' _ _ iha ihb =>
    intro t
    rw [List.append_assoc, prefixLens]
    exact mem_seqLens.mpr ⟨s.length, iha _, List.length_append ▸ Nat.le_add_right _ _, t'.length,
      by rw [List.drop_left]; exact ihb t, List.length_append.symm⟩
  | altL _ ih => intro t; rw [prefixLens]; exact List.mem_append_left _ (ih t)
  | altR _ ih => intro t; rw [prefixLens]; exact List.mem_append_right _ (ih t)
  | starNil => intro t; rw [prefixLens]; exact mem_starLens.mpr (.inl rfl)
  | @starCons a g s t' _ _ iha ihs =>
    intro t
    -- the matcher takes no empty iteration (`0 < n`); none is needed, an empty first iteration can be left out
    by_cases hs : s = []
    · subst hs; exact ihs t
    · rw [List.append_assoc, prefixLens]
      exact mem_starLens.mpr (.inr (mem_seqLens.mpr
        ⟨s.length, iha _, ⟨List.length_pos_iff.mpr hs, List.length_append ▸ Nat.le_add_right _ _⟩, t'.length,
          by rw [List.drop_left]; exact ihs t, List.length_append.symm⟩))

theorem prefixLens_iff (r : Re) (s : Bytes) (n : Nat) :
    n ∈ prefixLens r s ↔ n ≤ s.length ∧ Lang r (s.take n) := by
  constructor
  · exact prefixLens_sound r s n
  · rintro ⟨hle, hl⟩
    have := prefixLens_complete hl (s.drop n)
    simpa [List.length_take, Nat.min_eq_left hle] using this

end Rux
