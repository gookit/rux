import RuxModel.Model.Pattern
import RuxModel.Lemmas.Regex
import RuxModel.Lemmas.Bytes
/-
  Declarative semantics of structured route patterns and the proof that the prioritised matcher
  (`matchSegs`, `matchLevels`, `matchPat`) is sound and complete for it.
-/
namespace Rux

/-- `caps` are the variable values and `u` the text of one way to read `u` as an instance of `segs` -/
inductive SegsLang : List Seg → List Bytes → Bytes → Prop where
  | nil : SegsLang [] [] []
  | lit {l rest caps u} : SegsLang rest caps u → SegsLang (.lit l :: rest) caps (l ++ u)
  | var {re rest caps u v} : Lang re v → SegsLang rest caps u → SegsLang (.var re :: rest) (v :: caps) (v ++ u)

/-- instances of `segs₀(?:segs₁(?:…)?)?`; an absent optional level contributes no text and empty values -/
inductive LevelsLang : Levels → List Bytes → Bytes → Prop where
  | nil : LevelsLang [] [] []
  | last {segs caps u} : SegsLang segs caps u → LevelsLang [segs] caps u
  | present {segs l2 rest c1 u1 c2 u2} : SegsLang segs c1 u1 → LevelsLang (l2 :: rest) c2 u2 →
      LevelsLang (segs :: l2 :: rest) (c1 ++ c2) (u1 ++ u2)
  | absent {segs l2 rest c1 u1} : SegsLang segs c1 u1 →
      LevelsLang (segs :: l2 :: rest) (c1 ++ List.replicate (levelsVars (l2 :: rest)) []) u1

theorem matchSegs_sound {segs : List Seg} {s : Bytes} {caps : List Bytes} {r : Bytes}
    (h : (caps, r) ∈ matchSegs segs s) : ∃ u, s = u ++ r ∧ SegsLang segs caps u := by
  fun_induction matchSegs segs s generalizing caps r with
  | case1 s => cases List.mem_singleton.mp h; exact ⟨[], rfl, .nil⟩
  | case2 l rest s hp ih =>
    obtain ⟨u, hu, hl⟩ := ih h
    obtain ⟨t, rfl⟩ := (Bytes.hasPrefix_iff s l).mp hp
    rw [List.drop_left] at hu
    exact ⟨l ++ u, by rw [hu, List.append_assoc], .lit hl⟩
  | case3 => cases h
  | case4 re rest s ih =>
    obtain ⟨n, hn, h⟩ := List.mem_flatMap.mp h
    obtain ⟨⟨c, r'⟩, hcr, heq⟩ := List.mem_map.mp h
    cases heq
    obtain ⟨u, hu, hl⟩ := ih n hcr
    refine ⟨s.take n ++ u, ?_, .var (prefixLens_sound re s n hn).2 hl⟩
    rw [List.append_assoc, ← hu, List.take_append_drop]

theorem matchSegs_complete {segs : List Seg} {caps : List Bytes} {u : Bytes} (h : SegsLang segs caps u) :
    ∀ r, (caps, r) ∈ matchSegs segs (u ++ r) := by
  induction h with
  | nil => exact fun r => List.mem_singleton.mpr rfl
  | @lit l rest caps u _ ih =>
    intro r
    rw [matchSegs, List.append_assoc, if_pos ((Bytes.hasPrefix_iff _ _).mpr ⟨_, rfl⟩), List.drop_left]
    exact ih r
  | @var re rest caps u v hv _ ih =>
    intro r
    rw [List.append_assoc]
    refine List.mem_flatMap.mpr ⟨v.length, prefixLens_complete hv _, List.mem_map.mpr ⟨(caps, r), ?_, ?_⟩⟩
    · rw [List.drop_left]; exact ih r
    · rw [List.take_left]

theorem matchLevels_sound (ls : Levels) : ∀ (s : Bytes) (caps : List Bytes),
    caps ∈ matchLevels ls s → LevelsLang ls caps s := by
  intro s caps h
  fun_induction matchLevels ls s generalizing caps with
  | case1 => cases List.mem_singleton.mp h; exact .nil
  | case2 => cases h
  | case3 segs s =>
    obtain ⟨⟨c, r⟩, hcr, hsome⟩ := List.mem_filterMap.mp h
    obtain ⟨u, rfl, hu⟩ := matchSegs_sound hcr
    obtain ⟨rfl, hc⟩ : r = [] ∧ some c = some caps := Option.ite_none_right_eq_some.mp hsome
    cases hc
    exact (List.append_nil u).symm ▸ .last hu
  | case4 segs l2 rest s ih =>
    obtain ⟨⟨c, r⟩, hcr, hor⟩ := List.mem_flatMap.mp h
    obtain ⟨u, rfl, hu⟩ := matchSegs_sound hcr
    rcases List.mem_append.mp hor with hpres | habs
    · obtain ⟨c2, hc2, rfl⟩ := List.mem_map.mp hpres
      exact .present hu (ih (c, r) c2 hc2)
    · obtain ⟨rfl, habs⟩ : r = [] ∧ _ := List.mem_ite_nil_right.mp habs
      cases List.mem_singleton.mp habs
      exact (List.append_nil u).symm ▸ .absent hu

theorem matchLevels_complete {ls : Levels} {caps : List Bytes} {s : Bytes} (h : LevelsLang ls caps s) :
    caps ∈ matchLevels ls s := by
  induction h with
  | nil => exact List.mem_singleton.mpr rfl
  | @last segs caps u hu =>
    exact List.mem_filterMap.mpr ⟨(caps, []), List.append_nil u ▸ matchSegs_complete hu [], if_pos rfl⟩
  | @present segs l2 rest c1 u1 c2 u2 h1 _ ih =>
    exact List.mem_flatMap.mpr ⟨(c1, u2), matchSegs_complete h1 u2, List.mem_append_left _ (List.mem_map.mpr ⟨c2, ih, rfl⟩)⟩
  | @absent segs l2 rest c1 u1 h1 =>
    refine List.mem_flatMap.mpr ⟨(c1, []), List.append_nil u1 ▸ matchSegs_complete h1 [], List.mem_append_right _ ?_⟩
    exact List.mem_singleton.mpr rfl

/-- `matchPat` finds a reading whenever there is one, and only readings -/
theorem matchPat_some {ls : Levels} {s : Bytes} {caps : List Bytes} (h : matchPat ls s = some caps) :
    LevelsLang ls caps s :=
  matchLevels_sound ls s caps (List.mem_of_mem_head? h)

theorem matchPat_none_iff (ls : Levels) (s : Bytes) :
    matchPat ls s = none ↔ ¬ ∃ caps, LevelsLang ls caps s := by
  rw [matchPat, List.head?_eq_none_iff, List.eq_nil_iff_forall_not_mem, not_exists]
  exact forall_congr' fun caps => not_congr ⟨matchLevels_sound ls s caps, matchLevels_complete⟩

theorem matchPat_isSome_iff (ls : Levels) (s : Bytes) :
    (matchPat ls s).isSome = true ↔ ∃ caps, LevelsLang ls caps s := by
  rw [Option.isSome_iff_ne_none, ne_eq, matchPat_none_iff, Classical.not_not]

end Rux
