/-
  Lists of entries with a key, as the models and the run-time keep their maps.  First half: searching a list from which
  the entries of a key have been filtered out (every "lookup after an update / a removal" lemma is an instance); second
  half: lists whose keys are distinct.
-/
namespace Rux

theorem find?_filter_of_imp {α : Type} (l : List α) {p q : α → Bool} (h : ∀ a, q a = true → p a = true) :
    (l.filter p).find? q = l.find? q := by
  rw [List.find?_filter]
  congr 1
  funext a
  cases hq : q a
  · simp
  · simp [h a hq]

theorem find?_filter_key_ne {α κ : Type} [BEq κ] [LawfulBEq κ] [DecidableEq κ] (f : α → κ) (l : List α) (k k' : κ) :
    (l.filter (fun x => f x != k)).find? (fun x => f x == k') = if k' = k then none else l.find? (fun x => f x == k') := by
  split
  · rename_i h
    exact List.find?_eq_none.mpr fun a ha => by simpa [h] using (List.mem_filter.mp ha).2
  · rename_i h
    exact find?_filter_of_imp _ fun a ha => by
      rw [beq_iff_eq] at ha
      simpa [ha] using h

/-- an association list updated at `k`, searched for `k'` -/
theorem find?_cons_filter_key {κ β : Type} [BEq κ] [LawfulBEq κ] [DecidableEq κ] (l : List (κ × β)) (k k' : κ) (v : β) :
    ((k, v) :: l.filter (fun x => x.1 != k)).find? (fun x => x.1 == k') =
      if k' = k then some (k, v) else l.find? (fun x => x.1 == k') := by
  by_cases h : k' = k
  · rw [if_pos h, List.find?_cons_of_pos (by simpa using h.symm)]
  · rw [if_neg h, List.find?_cons_of_neg (by simpa using Ne.symm h)]
    exact (find?_filter_key_ne Prod.fst l k k').trans (if_neg h)

theorem inj_of_nodup_map {α β : Type} (f : α → β) {l : List α} (hn : (l.map f).Nodup) {a b : α}
    (ha : a ∈ l) (hb : b ∈ l) (h : f a = f b) : a = b :=
  -- `hn` is: the images are pairwise distinct; read in both orders it covers every pair of members
  have hp := List.pairwise_map.mp hn
  List.Pairwise.forall_of_forall_of_flip (R := fun a b => f a = f b → a = b) (fun _ _ _ => rfl)
    (hp.imp fun hne e => absurd e hne) (hp.imp fun hne e => absurd e.symm hne) ha hb h

/-- `q`: any test for the key `k` (`· == k`, `decide (· = k)`) -/
theorem find?_eq_some_iff_of_nodup_map {α β : Type} (f : α → β) {l : List α} (hn : (l.map f).Nodup) {q : α → Bool} {k : β}
    (hq : ∀ a, q a = true ↔ f a = k) (e : α) : l.find? q = some e ↔ e ∈ l ∧ f e = k := by
  refine ⟨fun h => ⟨List.mem_of_find?_eq_some h, (hq e).mp (List.find?_some h)⟩, fun ⟨he, hk⟩ => ?_⟩
  cases hx : l.find? q with
  | none => exact absurd ((hq e).mpr hk) (by simpa using List.find?_eq_none.mp hx e he)
  | some x =>
    exact congrArg some (inj_of_nodup_map f hn (List.mem_of_find?_eq_some hx) he
      (((hq x).mp (List.find?_some hx)).trans hk.symm))

theorem find?_of_nodup_map {α β : Type} [BEq β] [LawfulBEq β] (f : α → β) {l : List α} (hn : (l.map f).Nodup)
    {e : α} (he : e ∈ l) : l.find? (fun x => f x == f e) = some e :=
  (find?_eq_some_iff_of_nodup_map f hn (fun _ => beq_iff_eq) e).mpr ⟨he, rfl⟩

theorem find?_perm_of_nodup_map {α β : Type} (f : α → β) {l l' : List α} (hp : l.Perm l') (hn : (l.map f).Nodup)
    {q : α → Bool} {k : β} (hq : ∀ a, q a = true ↔ f a = k) : l.find? q = l'.find? q :=
  Option.ext fun e => by
    rw [find?_eq_some_iff_of_nodup_map f hn hq, find?_eq_some_iff_of_nodup_map f ((hp.map f).nodup_iff.mp hn) hq,
      hp.mem_iff]

theorem nodup_cons_filter {α β : Type} [BEq β] [LawfulBEq β] (f : α → β) {l : List α} (h : (l.map f).Nodup) (a : α) :
    ((a :: l.filter (fun y => f y != f a)).map f).Nodup := by
  refine List.nodup_cons.mpr ⟨fun hm => ?_, h.sublist (List.filter_sublist.map f)⟩
  obtain ⟨y, hy, e⟩ := List.mem_map.mp hm
  exact bne_iff_ne.mp (List.mem_filter.mp hy).2 e

end Rux
