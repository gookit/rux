import RuxModel.Model.Reg
import RuxModel.Lemmas.Bytes
/-
  The registration-scope model (`Model/Reg.lean`), list level: the interpreter computes the denotation `den` and succeeds
  within the limit; `den` on the flat scope is `Spec.denote` on the stack of groups; clean paths are concatenated literally.
  `execList_fresh` puts these together for a fresh router.
-/
namespace Rux.Reg

/-! ### definitions the statements of Props/C12.lean are written in -/

def Scope.pre (g : List H) (sc : Scope) : Scope := { sc with grp := g ++ sc.grp }
/-- not the field `RouteDef.pre` (the `Use` calls made before the route is attached) -/
def Route.pre (g : List H) (r : Route) : Route := { r with handlers := g ++ r.handlers }

/-- both path functions replaced by the identity: paths are literally concatenated -/
def idCfg (cfg : Cfg) : Cfg := { cfg with fmt := id, sfmt := id }

/-- what the theorems need to know about "clean" paths -/
structure CleanFns (cfg : Cfg) (P : Bytes → Prop) : Prop where
  fmt_fix : ∀ s, P s → cfg.fmt s = s
  sfmt_fix : ∀ s, P s → cfg.sfmt s = s
  cat : ∀ s t, P s → P t → P (s ++ t)

-- no `Resource` call: the paths it registers are the subject of C16
mutual
def CleanStmt (P : Bytes → Prop) : Stmt → Prop
  | .use _ => True
  | .route d => P d.path
  | .group p _ body => P p ∧ CleanProg P body
  | .controller p _ body => P p ∧ CleanProg P body
  | .resource _ _ => False
  | .notFound _ => True
  | .notAllowed _ => True
def CleanProg (P : Bytes → Prop) : List Stmt → Prop
  | [] => True
  | s :: rest => CleanStmt P s ∧ CleanProg P rest
end

/-! ### `RS.plus`: the state after a statement, as the denotation gives it -/

def RS.plus (st : RS) (r : List Route × Scope) : RS := ⟨r.2, st.routes ++ r.1⟩

theorem RS.plus_nil {st : RS} {sc : Scope} : { st with toScope := sc } = st.plus ([], sc) := by
  simp [RS.plus]

theorem RS.plus_plus {st : RS} {r1 r2 : List Route × Scope} :
    (st.plus r1).plus r2 = st.plus (r1.1 ++ r2.1, r2.2) := by
  simp [RS.plus]

/-! ### Route.Use and the limit -/

/-- the limit is tested after every `Use` call, and lengths only grow: the last test decides -/
theorem routeUses_eq (limit : Nat) : ∀ (l : List (List H)) (hs : List H),
    routeUses limit hs l =
      if l ≠ [] ∧ limit ≤ (hs ++ l.flatten).length then .error .tooMany else .ok (hs ++ l.flatten)
  | [], hs => by rw [if_neg fun c => c.1 rfl, List.flatten_nil, List.append_nil]; rfl
  | mw :: rest, hs => by
    rw [routeUses, routeUse, List.flatten_cons, ← List.append_assoc, ← List.length_append]
    by_cases h : limit ≤ (hs ++ mw).length
    · rw [if_pos h, if_pos ⟨List.cons_ne_nil _ _, List.length_append ▸ Nat.le_trans h (Nat.le_add_right _ _)⟩]
    · rw [if_neg h]
      simp only [routeUses_eq limit rest]
      cases rest with
      | nil => simpa using Nat.lt_of_not_le h
      | cons => simp

theorem attachHandlers_eq (limit : Nat) (grp hs : List H) :
    attachHandlers limit grp hs =
      if grp ≠ [] ∧ limit ≤ (grp ++ hs).length then .error .tooMany else .ok (grp ++ hs) := by
  unfold attachHandlers
  by_cases hg : grp = []
  · simp [hg]
  · simp only [hg, ne_eq, not_false_eq_true, if_true, true_and]

/-- over the three stages of `addRoute` again the last test decides, and a stage that is not tested adds nothing -/
theorem addRoute_eq (cfg : Cfg) (st : RS) (d : RouteDef) :
    addRoute cfg st d =
      if (d.pre ≠ [] ∨ d.post ≠ [] ∨ st.grp ≠ []) ∧ cfg.limit ≤ (mkRoute cfg st.toScope d).handlers.length
      then .error .tooMany else .ok (st.plus ([mkRoute cfg st.toScope d], st.toScope)) := by
  simp only [addRoute, routeUses_eq, attachHandlers_eq, List.nil_append, mkRoute, List.length_append]
  by_cases c1 : d.pre ≠ [] ∧ cfg.limit ≤ d.pre.flatten.length
  · rw [if_pos c1, if_pos ⟨Or.inl c1.1, Nat.le_trans c1.2 (Nat.le_trans (Nat.le_add_left _ _) (Nat.le_add_right _ _))⟩]
  by_cases c2 : st.grp ≠ [] ∧ cfg.limit ≤ st.grp.length + d.pre.flatten.length
  · rw [if_neg c1, if_pos ⟨Or.inr (Or.inr c2.1), Nat.le_trans c2.2 (Nat.le_add_right _ _)⟩]
    simp only [if_pos c2]
  by_cases c3 : d.post ≠ [] ∧ cfg.limit ≤ st.grp.length + d.pre.flatten.length + d.post.flatten.length
  · rw [if_neg c1, if_pos ⟨Or.inr (Or.inl c3.1), c3.2⟩]
    simp only [if_neg c2, List.length_append, if_pos c3]
  · rw [if_neg c1, if_neg]
    · simp only [if_neg c2, List.length_append, if_neg c3, RS.plus]
    · -- over the limit with some stage tested: then the last tested stage fails
      intro ⟨hany, hl⟩
      have h3 : d.post = [] := Decidable.by_contra fun h => c3 ⟨h, hl⟩
      have h2 : st.grp = [] := Decidable.by_contra fun h => c2 ⟨h, by simpa [h3] using hl⟩
      exact c1 ⟨by simpa [h3, h2] using hany, by simpa [h3, h2] using hl⟩

theorem addRoute_ok {cfg : Cfg} {st st' : RS} {d : RouteDef} (h : addRoute cfg st d = .ok st') :
    st' = st.plus ([mkRoute cfg st.toScope d], st.toScope) := by
  rw [addRoute_eq] at h
  split at h
  · cases h
  · exact (Except.ok.inj h).symm

theorem addRoute_ok_lt {cfg : Cfg} {st st' : RS} {d : RouteDef} (h : addRoute cfg st d = .ok st')
    (hany : d.pre ≠ [] ∨ d.post ≠ [] ∨ st.grp ≠ []) :
    (mkRoute cfg st.toScope d).handlers.length < cfg.limit :=
  Nat.lt_of_not_le fun hl => by
    rw [addRoute_eq, if_pos ⟨hany, hl⟩] at h
    cases h

theorem addRoute_fits {cfg : Cfg} (st : RS) (d : RouteDef)
    (h : (mkRoute cfg st.toScope d).handlers.length < cfg.limit) :
    addRoute cfg st d = .ok (st.plus ([mkRoute cfg st.toScope d], st.toScope)) := by
  rw [addRoute_eq, if_neg fun c => Nat.not_le.mpr h c.2]

theorem addRoutes_ok {cfg : Cfg} {ds : List RouteDef} {st st' : RS} (h : addRoutes cfg st ds = .ok st') :
    st' = st.plus (ds.map (mkRoute cfg st.toScope), st.toScope) := by
  fun_induction addRoutes cfg st ds with
  | case1 => cases h; exact RS.plus_nil
  | case2 st d rest st1 h1 ih =>
    rw [ih h, addRoute_ok h1, RS.plus_plus]
    rfl
  | case3 => cases h

theorem addRoutes_fits {cfg : Cfg} : ∀ (ds : List RouteDef) (st : RS),
    (∀ d ∈ ds, (mkRoute cfg st.toScope d).handlers.length < cfg.limit) →
    addRoutes cfg st ds = .ok (st.plus (ds.map (mkRoute cfg st.toScope), st.toScope))
  | [], st, _ => congrArg _ RS.plus_nil
  | d :: rest, st, h => by
    simp only [addRoutes, addRoute_fits st d (h d List.mem_cons_self)]
    rw [addRoutes_fits rest (st.plus ([mkRoute cfg st.toScope d], st.toScope))
      fun d' hd' => h d' (List.mem_cons_of_mem _ hd'), RS.plus_plus]
    rfl

theorem execList_routes (cfg : Cfg) (ds : List RouteDef) (st : RS) :
    execList cfg st (ds.map Stmt.route) = addRoutes cfg st ds := by
  fun_induction addRoutes cfg st ds with
  | case1 => rfl
  | case2 st d rest st1 h1 ih => simp only [List.map, execList, exec, h1, ih]
  | case3 st d rest e h1 => simp only [List.map, execList, exec, h1]

/-! ### the interpreter computes the denotation, and succeeds within the limit -/

mutual
theorem exec_den {cfg : Cfg} {st st' : RS} : (s : Stmt) → exec cfg st s = .ok st' →
    st' = st.plus (den cfg st.toScope s)
  | .use _, h | .notFound _, h | .notAllowed _, h => by
    cases h; exact RS.plus_nil
  | .route d, h => addRoute_ok h
  | .group p mws body, h | .controller p mws body, h => by
    simp only [exec] at h
    split at h
    · rename_i st2 h2
      cases h
      rw [execList_den body h2]
      rfl   -- `RS.leave` and `Scope.after` put back the same two fields
    · cases h
  | .resource rd mws, h => by
    simp only [exec] at h
    split at h
    · cases h
    · split at h
      · rename_i st2 h2
        cases h
        rw [addRoutes_ok h2]
        rfl
      · cases h
theorem execList_den {cfg : Cfg} {st st' : RS} : (l : List Stmt) → execList cfg st l = .ok st' →
    st' = st.plus (denList cfg st.toScope l)
  | [], h => by cases h; exact RS.plus_nil
  | s :: rest, h => by
    simp only [execList] at h
    split at h
    · rename_i st1 h1
      rw [execList_den rest h, exec_den s h1, RS.plus_plus]
      rfl
    · cases h
end

mutual
theorem exec_total (cfg : Cfg) (st : RS) : (s : Stmt) → okCtrl s = true →
    (∀ r ∈ (den cfg st.toScope s).1, r.handlers.length < cfg.limit) →
    exec cfg st s = .ok (st.plus (den cfg st.toScope s))
  | .use _, _, _ | .notFound _, _, _ | .notAllowed _, _, _ => congrArg _ RS.plus_nil
  | .route d, _, h => addRoute_fits st d (h _ List.mem_cons_self)
  | .group p mws body, hc, h | .controller p mws body, hc, h => by
    -- `okCtrl` of a group and the routes of its `den` unfold to those of the body: `hc`, `h` fit as they are
    simp only [exec, execList_total cfg (st.enter cfg p mws) body hc h]
    rfl
  | .resource rd mws, hc, h => by
    have hk : rd.kind = .ptrStruct := of_decide_eq_true hc
    simp only [exec, hk]
    rw [addRoutes_fits (restRoutes rd) (st.enter cfg (rd.base ++ rd.resName) mws)
      fun d hd => h _ (List.mem_map_of_mem hd)]
    rfl
theorem execList_total (cfg : Cfg) (st : RS) : (l : List Stmt) → okCtrlList l = true →
    (∀ r ∈ (denList cfg st.toScope l).1, r.handlers.length < cfg.limit) →
    execList cfg st l = .ok (st.plus (denList cfg st.toScope l))
  | [], _, _ => congrArg _ RS.plus_nil
  | s :: rest, hc, h => by
    have hc : okCtrl s = true ∧ okCtrlList rest = true := Bool.and_eq_true _ _ ▸ hc
    simp only [execList, exec_total cfg st s hc.1 fun r hr => h r (List.mem_append_left _ hr)]
    rw [execList_total cfg (st.plus (den cfg st.toScope s)) rest hc.2 fun r hr => h r (List.mem_append_right _ hr), RS.plus_plus]
    rfl
end

/-! ### prefix and group handlers never leak out of a statement -/

/-- the two tests of `Group` (middleware given? group handlers present?) only avoid appending `[]` -/
theorem enterScope_eq (cfg : Cfg) (sc : Scope) (p : Bytes) (mws : List H) :
    enterScope cfg sc p mws = { sc with pfx := sc.pfx ++ cfg.fmt p, grp := sc.grp ++ mws } := by
  simp only [enterScope]
  by_cases hm : mws = [] <;> by_cases hg : sc.grp = [] <;> simp [hm, hg]

theorem den_pfx (cfg : Cfg) (sc : Scope) : (s : Stmt) → (den cfg sc s).2.pfx = sc.pfx
  | .use hs => by simp only [den, useScope]; split <;> rfl
  | .route _ | .group _ _ _ | .controller _ _ _ | .resource _ _ | .notFound _ | .notAllowed _ => rfl

theorem denList_pfx (cfg : Cfg) (sc : Scope) : (l : List Stmt) → (denList cfg sc l).2.pfx = sc.pfx
  | [] => rfl
  | s :: rest => by
    simp only [denList]
    rw [denList_pfx cfg _ rest, den_pfx cfg sc s]

/-! ### group handlers are a prefix of the handlers of every route inside -/

theorem mkRoute_pre (cfg : Cfg) (sc : Scope) (g : List H) (d : RouteDef) :
    mkRoute cfg (sc.pre g) d = (mkRoute cfg sc d).pre g := by
  simp [mkRoute, Scope.pre, Route.pre]

theorem enter_pre (cfg : Cfg) (sc : Scope) (g : List H) (p : Bytes) (mws : List H) :
    enterScope cfg (sc.pre g) p mws = (enterScope cfg sc p mws).pre g := by
  rw [enterScope_eq, enterScope_eq]
  simp [Scope.pre]

mutual
theorem den_pre (cfg : Cfg) (g : List H) (sc : Scope) : (s : Stmt) →
    den cfg (sc.pre g) s = ((den cfg sc s).1.map (Route.pre g), (den cfg sc s).2.pre g)
  | .use hs => by
    simp only [den, useScope, Scope.pre]
    by_cases h : sc.pfx = [] <;> simp [h]
  | .route d => by simp [den, mkRoute_pre]
  | .group p mws body | .controller p mws body => by
    simp only [den]
    rw [enter_pre, denList_pre cfg g _ body]
    rfl
  | .resource rd mws => by
    simp only [den]
    rw [enter_pre]
    simp [mkRoute_pre]
  | .notFound hs | .notAllowed hs => rfl
theorem denList_pre (cfg : Cfg) (g : List H) (sc : Scope) : (l : List Stmt) →
    denList cfg (sc.pre g) l = ((denList cfg sc l).1.map (Route.pre g), (denList cfg sc l).2.pre g)
  | [] => rfl
  | s :: rest => by
    simp only [denList]
    rw [den_pre cfg g sc s]
    rw [denList_pre cfg g _ rest, List.map_append]
end

/-- `denList_pre` at `grp := []`, the form Props/C12.lean uses -/
theorem denList_grp_eq_pre (cfg : Cfg) (sc : Scope) (g : List H) (l : List Stmt) :
    denList cfg { sc with grp := g } l =
      ((denList cfg { sc with grp := [] } l).1.map (Route.pre g), (denList cfg { sc with grp := [] } l).2.pre g) := by
  have := denList_pre cfg g { sc with grp := [] } l
  rwa [show ({ sc with grp := [] } : Scope).pre g = { sc with grp := g } by simp [Scope.pre]] at this

/-! ### the flat scope of the code = the stack of enclosing groups of the reference semantics -/
open Spec

def Spec.LScope.flat (cfg : Cfg) (ls : LScope) : Scope :=
  ⟨ls.fullPrefix cfg, ls.groupHandlers, ls.globals, ls.noRoute, ls.noAllowed⟩

/-- one prefix argument per level -/
def Spec.LScope.Bal (ls : LScope) : Prop := ls.lv.length = ls.pfxs.length

theorem flat_push (cfg : Cfg) (ls : LScope) (p : Bytes) (mws : List H) :
    (push ls p mws).flat cfg = enterScope cfg (ls.flat cfg) p mws := by
  rw [enterScope_eq]
  simp [LScope.flat, push, LScope.fullPrefix, LScope.groupHandlers]

theorem flat_pop (cfg : Cfg) (ls r : LScope) :
    (pop ls r).flat cfg = (ls.flat cfg).after (r.flat cfg) := by
  simp [LScope.flat, pop, Scope.after, LScope.fullPrefix, LScope.groupHandlers]

theorem flat_use (cfg : Cfg) (hne : ∀ x, cfg.fmt x ≠ []) (ls : LScope) (hb : ls.Bal) (hs : List H) :
    (useL ls hs).flat cfg = useScope (ls.flat cfg) hs := by
  -- `Bal`: `lv = []` iff `pfxs = []`; so `useL` (tests `lv`) and `useScope` (tests `pfx`; `hne`) branch alike
  obtain ⟨pfxs, lv, g, nf, na⟩ := ls
  cases lv <;> cases pfxs
  · rfl
  · cases hb
  · cases hb
  · simp [useL, LScope.flat, useScope, LScope.fullPrefix, LScope.groupHandlers, hne]

theorem mkRoute_flat (cfg : Cfg) (ls : LScope) (d : RouteDef) :
    mkRoute cfg (ls.flat cfg) d = mkRouteL cfg ls d := rfl

theorem bal_use (ls : LScope) (hb : ls.Bal) (hs : List H) : (useL ls hs).Bal := by
  obtain ⟨_, lv, _, _, _⟩ := ls
  cases lv <;> exact hb

mutual
theorem den_denote (cfg : Cfg) (hne : ∀ x, cfg.fmt x ≠ []) (ls : LScope) (hb : ls.Bal) : (s : Stmt) →
    den cfg (ls.flat cfg) s = ((denote cfg ls s).1, (denote cfg ls s).2.flat cfg) ∧ (denote cfg ls s).2.Bal
  | .use hs => ⟨congrArg (Prod.mk []) (flat_use cfg hne ls hb hs).symm, bal_use ls hb hs⟩
  | .route _ | .notFound _ | .notAllowed _ => ⟨rfl, hb⟩
  | .group p mws body | .controller p mws body => by
    simp only [den, denote]
    rw [← flat_push, denList_denote cfg hne (push ls p mws) (congrArg Nat.succ hb) body, flat_pop]
    exact ⟨rfl, hb⟩
  | .resource rd mws => by
    simp only [den, denote]
    rw [← flat_push]
    exact ⟨rfl, hb⟩
theorem denList_denote (cfg : Cfg) (hne : ∀ x, cfg.fmt x ≠ []) (ls : LScope) (hb : ls.Bal) : (l : List Stmt) →
    denList cfg (ls.flat cfg) l = ((denoteList cfg ls l).1, (denoteList cfg ls l).2.flat cfg)
  | [] => rfl
  | s :: rest => by
    have h1 := den_denote cfg hne ls hb s
    simp only [denList, denoteList]
    rw [h1.1, denList_denote cfg hne _ h1.2 rest]
end

/-! ### clean prefixes and paths are concatenated literally -/

theorem storedPath_id (cfg : Cfg) (pfx p : Bytes) : storedPath (idCfg cfg) pfx p = pfx ++ p := by
  simp [storedPath, idCfg]

theorem flatten_clean {cfg : Cfg} {P : Bytes → Prop} (hc : CleanFns cfg P) :
    ∀ (l : List Bytes), (∀ p ∈ l, P p) → l.flatten = [] ∨ P l.flatten
  | [], _ => Or.inl rfl
  | a :: t, h => by
    obtain ⟨ha, ht⟩ := List.forall_mem_cons.mp h
    rcases flatten_clean hc t ht with ht | ht
    · rw [List.flatten_cons, ht, List.append_nil]
      exact Or.inr ha
    · exact Or.inr (hc.cat _ _ ha ht)

theorem storedPath_clean {cfg : Cfg} {P : Bytes → Prop} (hc : CleanFns cfg P)
    (pfxs : List Bytes) (hp : ∀ p ∈ pfxs, P p) (path : Bytes) (hpath : P path) :
    storedPath cfg (pfxs.map cfg.fmt).flatten path = pfxs.flatten ++ path := by
  rw [(List.map_congr_left fun p h => hc.fmt_fix p (hp p h)).trans (List.map_id pfxs)]
  simp only [storedPath]
  rw [hc.sfmt_fix _ hpath, hc.fmt_fix _ hpath]
  by_cases h0 : pfxs.flatten = []
  · simp [h0]
  · rw [if_pos h0]
    exact hc.fmt_fix _ (hc.cat _ _ ((flatten_clean hc pfxs hp).resolve_left h0) hpath)

mutual
theorem denote_clean {cfg : Cfg} {P : Bytes → Prop} (hc : CleanFns cfg P) (ls : LScope)
    (hp : ∀ p ∈ ls.pfxs, P p) : (s : Stmt) → CleanStmt P s →
    denote cfg ls s = denote (idCfg cfg) ls s ∧ (denote cfg ls s).2.pfxs = ls.pfxs
  | .use hs, _ => by
    simp only [denote, useL]
    split <;> simp
  | .route d, h => by
    simp only [denote, mkRouteL, LScope.fullPrefix]
    rw [storedPath_clean hc ls.pfxs.reverse (by simpa using hp) d.path h, storedPath_id]
    simp [idCfg]
  | .group p mws body, h | .controller p mws body, h => by
    simp only [denote]
    rw [denoteList_clean hc (push ls p mws) (List.forall_mem_cons.mpr ⟨h.1, hp⟩) body h.2]
    exact ⟨rfl, rfl⟩
  | .resource _ _, h => h.elim
  | .notFound hs, _ | .notAllowed hs, _ => ⟨rfl, rfl⟩
theorem denoteList_clean {cfg : Cfg} {P : Bytes → Prop} (hc : CleanFns cfg P) (ls : LScope)
    (hp : ∀ p ∈ ls.pfxs, P p) : (l : List Stmt) → CleanProg P l →
    denoteList cfg ls l = denoteList (idCfg cfg) ls l
  | [], _ => rfl
  | s :: rest, h => by
    have h1 := denote_clean hc ls hp s h.1
    simp only [denoteList]
    rw [denoteList_clean hc (denote cfg ls s).2 (by rw [h1.2]; exact hp) rest h.2, h1.1]
end

/-! ### the executable path functions of the driver meet the hypotheses -/

theorem cleanFmt_ne (s : Bytes) : cleanFmt s ≠ [] := by
  fun_cases cleanFmt s <;> exact List.cons_ne_nil _ _

theorem getLast?_reverse_head {a : Nat} {l : Bytes} (h : l.getLast? = some a) : ∃ t, l.reverse = a :: t := by
  rw [List.getLast?_eq_head?_reverse] at h
  match l.reverse, h with
  | _ :: t, rfl => exact ⟨t, rfl⟩

theorem cleanPath_last {s : Bytes} (h : CleanPath s) : s ≠ [] ∧ s.getLast? ≠ some 47 := by
  obtain ⟨c, rest, rfl, _, hl⟩ := h
  exact ⟨by simp, by simpa using hl⟩

theorem cleanSfmt_fix (s : Bytes) (h : CleanPath s) : cleanSfmt s = s := by
  obtain ⟨c, rest, rfl, hc, _⟩ := h
  unfold cleanSfmt
  rw [if_neg (by simp), Bytes.trimLeft_cons_self, Bytes.trimLeft_cons_ne hc]

theorem cleanFmt_eq (s : Bytes) : cleanFmt s = cleanSfmt (Bytes.trimRightByte 47 s) := by
  by_cases h : s = [] ∨ s = [47]
  · rcases h with rfl | rfl <;> rfl
  · exact if_neg h

theorem cleanFmt_fix (s : Bytes) (h : CleanPath s) : cleanFmt s = s := by
  rw [cleanFmt_eq, Bytes.trimRight_id (cleanPath_last h).2, cleanSfmt_fix s h]

theorem cleanPath_cat (s t : Bytes) (hs : CleanPath s) (ht : CleanPath t) : CleanPath (s ++ t) := by
  obtain ⟨c, rest, rfl, hc, _⟩ := hs
  obtain ⟨c', rest', rfl, _, hl'⟩ := ht
  exact ⟨c, rest ++ 47 :: c' :: rest', rfl, hc, by simpa [List.getLast?_cons] using hl'⟩

theorem cleanFns (limit : Nat) : CleanFns (cleanCfg limit) CleanPath :=
  ⟨cleanFmt_fix, cleanSfmt_fix, cleanPath_cat⟩

instance (s : Bytes) : Decidable (CleanPath s) :=
  match s with
  | [] | [_] => isFalse (by rintro ⟨c, r, h, _⟩; cases h)
  | a :: c :: rest =>
    decidable_of_iff (a = 47 ∧ c ≠ 47 ∧ (c :: rest).getLast? ≠ some 47)
      ⟨fun h => ⟨c, rest, by rw [h.1], h.2⟩, fun ⟨_, _, he, h⟩ => by cases he; exact ⟨rfl, h⟩⟩

example : CleanPath [47, 97, 112, 105, 47, 118, 49] := by decide   -- "/api/v1"
example : ¬ CleanPath [47, 97, 112, 105, 47] := by decide   -- "/api/"

/-- `rw [ascii_ofList]` before `decide`: `String.toList` on a literal costs the kernel time quadratic in its length -/
theorem ascii_ofList (l : List Char) : ascii (String.ofList l) = l.map Char.toNat := by
  rw [ascii, String.toList_ofList]

/-! ### the scope after a program -/

theorem useL_nil (ls : LScope) : useL ls [] = ls := by
  obtain ⟨_, lv, _, _, _⟩ := ls
  cases lv <;> simp [useL]

theorem useL_append (ls : LScope) (a b : List H) : useL (useL ls a) b = useL ls (a ++ b) := by
  obtain ⟨_, lv, _, _, _⟩ := ls
  cases lv <;> simp [useL]

theorem useL_fallbacks (ls : LScope) (nf na hs : List H) :
    useL { ls with noRoute := nf, noAllowed := na } hs = { useL ls hs with noRoute := nf, noAllowed := na } := by
  obtain ⟨_, lv, _, _, _⟩ := ls
  cases lv <;> rfl

theorem useL_inside (ls : LScope) (hs : List H) (h : ls.lv ≠ []) :
    (useL ls hs).globals = ls.globals ∧ (useL ls hs).lv ≠ [] := by
  unfold useL
  split
  · rename_i h0; exact absurd h0 h
  · simp

theorem topUses_cons (s : Stmt) (rest : List Stmt) : topUses (s :: rest) = topUses [s] ++ topUses rest := by
  cases s <;> simp [topUses]

-- the `Use` calls inside a group go to the level that `pop` discards: only `topUses` stay
mutual
theorem denote_scope (cfg : Cfg) (ls : LScope) : (s : Stmt) →
    (denote cfg ls s).2 =
      { useL ls (topUses [s]) with noRoute := lastNF ls.noRoute s, noAllowed := lastNA ls.noAllowed s }
  | .use hs => by
    simp only [denote, topUses, List.append_nil]
    exact useL_fallbacks ls _ _ hs
  | .route _ | .resource _ _ | .notFound _ | .notAllowed _ => by
    simp only [topUses, useL_nil]
    rfl
  | .group p mws body | .controller p mws body => by
    simp only [denote, denoteList_scope cfg (push ls p mws) body, topUses, useL_nil]
    rfl
theorem denoteList_scope (cfg : Cfg) (ls : LScope) : (l : List Stmt) →
    (denoteList cfg ls l).2 =
      { useL ls (topUses l) with noRoute := lastNFList ls.noRoute l, noAllowed := lastNAList ls.noAllowed l }
  | [] => by
    simp only [denoteList, topUses, useL_nil]
    rfl
  | s :: rest => by
    simp only [denoteList]
    rw [denoteList_scope cfg _ rest, denote_scope cfg ls s, useL_fallbacks, useL_append, ← topUses_cons]
    rfl
end

theorem denote_inside (cfg : Cfg) (ls : LScope) (h : ls.lv ≠ []) : (s : Stmt) →
    (denote cfg ls s).2.globals = ls.globals ∧ (denote cfg ls s).2.lv ≠ [] :=
  fun _ => by rw [denote_scope]; exact useL_inside ls _ h

theorem denote_nf (cfg : Cfg) (ls : LScope) : (s : Stmt) →
    (denote cfg ls s).2.noRoute = lastNF ls.noRoute s ∧ (denote cfg ls s).2.noAllowed = lastNA ls.noAllowed s :=
  fun _ => by rw [denote_scope]; exact ⟨rfl, rfl⟩

theorem denList_append (cfg : Cfg) : ∀ (a b : List Stmt) (sc : Scope),
    denList cfg sc (a ++ b) =
      ((denList cfg sc a).1 ++ (denList cfg (denList cfg sc a).2 b).1,
       (denList cfg (denList cfg sc a).2 b).2)
  | [], b, sc => by simp [denList]
  | s :: a, b, sc => by
    simp only [List.cons_append, denList]
    rw [denList_append cfg a b]
    simp

theorem denList_uses_top (cfg : Cfg) : ∀ (l : List (List H)) (sc : Scope), sc.pfx = [] →
    denList cfg sc (l.map Stmt.use) = ([], { sc with globals := sc.globals ++ l.flatten })
  | [], sc, _ => by simp [denList]
  | hs :: rest, sc, h => by
    have e : useScope sc hs = { sc with globals := sc.globals ++ hs } := if_neg fun hn => hn h
    simp only [List.map, denList, den, e]
    rw [denList_uses_top cfg rest { sc with globals := sc.globals ++ hs } h]
    simp

/-- `later`: top-level `Use` calls made after the routes are registered change no route and still reach every chain through
    the global list -/
theorem execList_fresh {cfg : Cfg} (hne : ∀ x, cfg.fmt x ≠ []) (prog : List Stmt) (later : List (List H)) {st' : RS}
    (h : execList cfg RS.init (prog ++ later.map Stmt.use) = .ok st') :
    st'.routes = (denoteList cfg LScope.init prog).1 ∧ st'.globals = topUses prog ++ later.flatten ∧
    st'.noRoute = lastNFList [] prog ∧ st'.noAllowed = lastNAList [] prog := by
  have hd := execList_den _ h
  rw [denList_append, show RS.init.toScope = LScope.init.flat cfg from rfl,
    denList_denote cfg hne LScope.init rfl prog, denoteList_scope, denList_uses_top cfg later _ rfl] at hd
  subst hd
  exact ⟨by simp [RS.plus, RS.init], rfl, rfl, rfl⟩

end Rux.Reg
