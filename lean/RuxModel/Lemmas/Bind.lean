import RuxModel.Model.Bind
import RuxModel.Lemmas.Bytes
/-
  Lemmas for C18 (binding); before them the predicates the statements of Props/C18.lean use, after them the byte strings
  and toy codecs of its statements and examples.
-/
namespace Rux.Bind

/-- `Bytes = List Nat`; `escape` writes two hex digits, so the codec is an inverse only below 256 -/
def IsBytes (s : Bytes) : Prop := ∀ b ∈ s, b < 256

def keysOf (m : Vals) : List Bytes := m.map (·.1)

def ValsBytes (m : Vals) : Prop := ∀ e ∈ m, IsBytes e.1 ∧ ∀ v ∈ e.2, IsBytes v

/-- what `ParseQuery(m.Encode())` rebuilds: the entries in key order, entries without values dropped -/
def canon (m : Vals) : Vals := (sortVals m).filter (fun e => !e.2.isEmpty)

variable {Val ε : Type}

def Passes (c : Codecs Val ε) (v : Val) : Prop := ∀ f, c.validator = some f → f v = .ok ()

/-- "the source that `Auto` selects for `r` was read without error and its decoder produced `v`" -/
def AutoDecoded (c : Codecs Val ε) (r : Request ε) (v : Val) : Prop :=
  match autoSource r.method r.ctype with
  | .query => c.decodeValues .query (urlQuery r) = .ok v
  | .form => (parseForm r).err = none ∧ c.decodeValues .form (parseForm r).postForm = .ok v
  | .multipart => ∃ post, parseMultipart r = .ok post ∧ c.decodeValues .form post = .ok v
  | .json => c.decodeJSON r.body = .ok v
  | .xml => c.decodeXML r.body = .ok v
  | .unsupported => False

/-! ### `strings.Contains`; the methods with a body -/

theorem containsSub_iff (sub s : Bytes) : containsSub sub s = true ↔ sub <:+: s := by
  induction s with
  | nil => simp [containsSub]
  | cons a s ih =>
    have hp : Bytes.hasPrefix (a :: s) sub = true ↔ sub <+: a :: s :=
      (Bytes.hasPrefix_iff _ _).trans (exists_congr fun _ => eq_comm)
    simp only [containsSub, Bool.or_eq_true, hp, ih, List.infix_cons_iff]

theorem bodyMethod_iff (m : Bytes) : bodyMethod m = true ↔ (m = mPOST ∨ m = mPUT ∨ m = mPATCH) := by
  simp [bodyMethod, or_assoc]

theorem bodyMethod_of_source {m ct : Bytes} (h : autoSource m ct ≠ .query) : bodyMethod m = true := by
  cases hb : bodyMethod m with
  | true => rfl
  | false => simp [autoSource, hb] at h

/-! ### percent-encoding: `QueryUnescape ∘ QueryEscape` -/

theorem unhex_upperHex : ∀ {n}, n < 16 → unhex (upperHex n) = some n := by decide

/-- an unreserved byte is none of `%`, `+` (which `unescape` decodes), `&`, `=`, `;` (which `ParseQuery` splits at) -/
theorem unreserved_ne {b : Nat} (h : unreserved b = true) :
    b ≠ 0x25 ∧ b ≠ 0x2B ∧ b ≠ 0x26 ∧ b ≠ 0x3D ∧ b ≠ 0x3B := by
  simp only [unreserved, Bool.or_eq_true, Bool.and_eq_true, decide_eq_true_eq] at h
  omega

theorem unescape_plain {c : Nat} (t : Bytes) (h1 : c ≠ 0x25) (h2 : c ≠ 0x2B) :
    unescape (c :: t) = (unescape t).map (fun r => c :: r) := by
  rw [unescape.eq_def]; simp [h1, h2]

theorem unescape_plus (t : Bytes) :
    unescape (0x2B :: t) = (unescape t).map (fun r => 0x20 :: r) := by
  rw [unescape.eq_def]; simp

theorem unescape_escapeByte_append (b : Nat) (hb : b < 256) (t : Bytes) :
    unescape (escapeByte b ++ t) = (unescape t).map (fun r => b :: r) := by
  fun_cases escapeByte b
  · next h => exact unescape_plain t (unreserved_ne h).1 (unreserved_ne h).2.1
  · next _ h => exact h ▸ unescape_plus t
  · have : b / 16 % 16 * 16 + b % 16 = b := by
      rw [Nat.mod_eq_of_lt (Nat.div_lt_of_lt_mul hb)]; exact Nat.div_add_mod' b 16
    simp only [List.cons_append, List.nil_append, unescape, if_true, unhex_upperHex (Nat.mod_lt _ (by decide)), this]

theorem unescape_escape (s : Bytes) (hs : IsBytes s) : unescape (escape s) = some s := by
  induction s with
  | nil => rfl
  | cons b s ih =>
    obtain ⟨hb, hs'⟩ := List.forall_mem_cons.mp hs
    simp only [escape, List.flatMap_cons] at ih ⊢
    rw [unescape_escapeByte_append b hb, ih hs']
    rfl

/-! ### `ParseQuery ∘ Encode` on pairs, then on `url.Values`; `&` = 0x26, `=` = 0x3D, `;` = 0x3B -/

theorem upperHex_noSep : ∀ {n}, n < 16 → upperHex n ≠ 0x26 ∧ upperHex n ≠ 0x3D ∧ upperHex n ≠ 0x3B := by decide

theorem escape_noSep (s : Bytes) : 0x26 ∉ escape s ∧ 0x3D ∉ escape s ∧ 0x3B ∉ escape s := by
  have h : ∀ x ∈ escape s, x ≠ 0x26 ∧ x ≠ 0x3D ∧ x ≠ 0x3B := by
    intro x hx
    obtain ⟨b, -, hb⟩ := List.mem_flatMap.mp hx
    revert hb
    fun_cases escapeByte b <;> intro hb
    · next h => exact List.mem_singleton.mp hb ▸ (unreserved_ne h).2.2
    · exact List.mem_singleton.mp hb ▸ by decide
    · simp only [List.mem_cons, List.not_mem_nil, or_false] at hb
      rcases hb with rfl | rfl | rfl
      · decide
      · exact upperHex_noSep (Nat.mod_lt _ (by decide))
      · exact upperHex_noSep (Nat.mod_lt _ (by decide))
  exact ⟨fun hx => (h _ hx).1 rfl, fun hx => (h _ hx).2.1 rfl, fun hx => (h _ hx).2.2 rfl⟩

theorem cutByte_append {c : Nat} {a b : Bytes} (h : c ∉ a) : cutByte c (a ++ c :: b) = (a, b) := by
  induction a with
  | nil => simp [cutByte]
  | cons x t ih =>
    simp only [List.mem_cons, not_or] at h
    simp [cutByte, ih h.2, Ne.symm h.1]

/-- the text `Values.Encode` writes for one pair -/
def encSeg (p : Bytes × Bytes) : Bytes := escape p.1 ++ [0x3D] ++ escape p.2

theorem encodePairs_singleton (p : Bytes × Bytes) : encodePairs [p] = encSeg p := rfl

theorem encodePairs_cons_cons (p q : Bytes × Bytes) (ps : List (Bytes × Bytes)) :
    encodePairs (p :: q :: ps) = encSeg p ++ 0x26 :: encodePairs (q :: ps) := List.append_assoc ..

theorem encSeg_noSep (p : Bytes × Bytes) : 0x26 ∉ encSeg p ∧ 0x3B ∉ encSeg p := by
  simp [encSeg, escape_noSep]

theorem parseSeg_encSeg (p : Bytes × Bytes) (h1 : IsBytes p.1) (h2 : IsBytes p.2) :
    parseSeg (encSeg p) = some (some p) := by
  have hne : (encSeg p).isEmpty = false := by simp [encSeg]
  have hcut : cutByte 0x3D (encSeg p) = (escape p.1, escape p.2) := by
    simp only [encSeg, List.append_assoc, List.singleton_append]
    exact cutByte_append (escape_noSep _).2.1
  simp [parseSeg, (encSeg_noSep p).2, hne, hcut, unescape_escape _ h1, unescape_escape _ h2]

theorem parsePairs_encodePairs (ps : List (Bytes × Bytes)) (h : ∀ p ∈ ps, IsBytes p.1 ∧ IsBytes p.2) :
    parsePairs (encodePairs ps) = (ps, false) := by
  induction ps with
  | nil => rfl
  | cons p ps ih =>
    obtain ⟨hp, hr⟩ := List.forall_mem_cons.mp h
    have hsplit := Bytes.split_of_noSep _ _ (encSeg_noSep p).1
    have hseg := parseSeg_encSeg p hp.1 hp.2
    cases ps with
    | nil => simp only [encodePairs_singleton, parsePairs, hsplit, parseSegs, hseg]
    | cons q ps =>
      rw [encodePairs_cons_cons, parsePairs, Bytes.split_append_sep, hsplit, List.singleton_append, parseSegs, hseg,
        ← parsePairs, ih hr]

theorem valsAdd_append {acc rest : Vals} {k v : Bytes} (h : k ∉ keysOf acc) :
    valsAdd (acc ++ rest) k v = acc ++ valsAdd rest k v := by
  induction acc with
  | nil => rfl
  | cons e t ih =>
    simp only [keysOf, List.map_cons, List.mem_cons, not_or] at h
    simp [valsAdd, Ne.symm h.1, ih h.2]

theorem foldl_valsAdd_append (acc rest : Vals) (ps : List (Bytes × Bytes)) (h : ∀ p ∈ ps, p.1 ∉ keysOf acc) :
    ps.foldl (fun m p => valsAdd m p.1 p.2) (acc ++ rest) =
      acc ++ ps.foldl (fun m p => valsAdd m p.1 p.2) rest := by
  induction ps generalizing rest with
  | nil => rfl
  | cons p ps ih =>
    simp only [List.mem_cons, forall_eq_or_imp] at h
    rw [List.foldl_cons, valsAdd_append h.1, ih _ h.2]; rfl

theorem foldl_valsAdd_same (k : Bytes) (ws vs : List Bytes) :
    (vs.map fun v => (k, v)).foldl (fun m p => valsAdd m p.1 p.2) [(k, ws)] = [(k, ws ++ vs)] := by
  induction vs generalizing ws with
  | nil => simp
  | cons v vs ih => simp [valsAdd, ih]

theorem valsOfPairs_flatten {m : Vals} (hk : (keysOf m).Nodup) :
    valsOfPairs (flattenVals m) = m.filter (fun e => !e.2.isEmpty) := by
  induction m with
  | nil => rfl
  | cons e t ih =>
    obtain ⟨k, vs⟩ := e
    simp only [keysOf, List.map_cons, List.nodup_cons] at hk
    simp only [valsOfPairs, flattenVals, List.flatMap_cons, List.foldl_append] at ih ⊢
    cases vs with
    | nil => exact ih hk.2
    | cons v vs =>
      -- the first value opens the entry of `k`, the others join it, and no later pair has key `k`
      have hfresh : ∀ p ∈ flattenVals t, p.1 ∉ [k] := by
        simp only [flattenVals, List.mem_flatMap, List.mem_map, List.mem_singleton]
        rintro _ ⟨e, he, w, -, rfl⟩ rfl
        exact hk.1 (List.mem_map.mpr ⟨e, he, rfl⟩)
      have := foldl_valsAdd_append [(k, v :: vs)] [] (flattenVals t) hfresh
      rw [List.append_nil, flattenVals, ih hk.2] at this
      simpa [valsAdd, foldl_valsAdd_same k [v] vs] using this

theorem insertEntry_perm (e : Bytes × List Bytes) (l : Vals) : (insertEntry e l).Perm (e :: l) := by
  fun_induction insertEntry e l with
  | case1 | case2 => exact .refl _
  | case3 x t _ ih => exact (ih.cons x).trans (.swap e x t)

theorem sortVals_perm (m : Vals) : (sortVals m).Perm m := by
  induction m with
  | nil => exact .refl _
  | cons e t ih => exact (insertEntry_perm e _).trans (ih.cons e)

theorem keysOf_sortVals_nodup {m : Vals} (h : (keysOf m).Nodup) : (keysOf (sortVals m)).Nodup := by
  unfold keysOf at h ⊢
  exact ((sortVals_perm m).map (·.1)).nodup_iff.mpr h

theorem parseQuery_encode {m : Vals} (hk : (keysOf m).Nodup) (hb : ValsBytes m) :
    parseQuery (encode m) = (canon m, false) := by
  have hp : ∀ p ∈ flattenVals (sortVals m), IsBytes p.1 ∧ IsBytes p.2 := by
    simp only [flattenVals, List.mem_flatMap, List.mem_map]
    rintro _ ⟨e, he, v, hv, rfl⟩
    have := hb e ((sortVals_perm m).mem_iff.mp he)
    exact ⟨this.1, this.2 v hv⟩
  simp only [parseQuery, encode, parsePairs_encodePairs _ hp,
    valsOfPairs_flatten (keysOf_sortVals_nodup hk), canon]

theorem lookup_iff_mem {m : Vals} (hk : (keysOf m).Nodup) {k : Bytes} {vs : List Bytes} :
    m.lookup k = some vs ↔ (k, vs) ∈ m := by
  induction m with
  | nil => simp
  | cons e t ih =>
    obtain ⟨k', ws⟩ := e
    simp only [keysOf, List.map_cons, List.nodup_cons] at hk
    by_cases h : k = k'
    · subst h
      have : (k, vs) ∉ t := fun h => hk.1 (List.mem_map.mpr ⟨_, h, rfl⟩)
      simp [this, eq_comm]
    · simp [List.lookup_cons, beq_eq_false_iff_ne.mpr h, h, ih hk.2]

theorem valsGet_canon {m : Vals} (hk : (keysOf m).Nodup) (k : Bytes) :
    valsGet (canon m) k = valsGet m k := by
  have hc : (keysOf (canon m)).Nodup := (keysOf_sortVals_nodup hk).sublist (List.filter_sublist.map _)
  -- as a map, `canon m` is `m` without the keys that have no values; `valsGet` reads those as `[]` anyway
  have : (canon m).lookup k = (m.lookup k).filter (fun vs => !vs.isEmpty) := by
    ext vs
    rw [lookup_iff_mem hc, Option.filter_eq_some_iff, lookup_iff_mem hk]
    simp [canon, (sortVals_perm m).mem_iff]
  rw [valsGet, this, valsGet]
  cases m.lookup k with
  | none => rfl
  | some vs => cases vs <;> rfl

/-! ### a bind succeeds iff its decoder succeeds and the validator passes -/

section
variable {c : Codecs Val ε} {v : Val}

theorem validate_ok_iff {w : Val} : validate c v = .ok w ↔ v = w ∧ Passes c v := by
  unfold validate Passes
  cases c.validator with
  | none => simp
  | some f => cases hf : f v <;> simp [hf]

/-- what `DecodeUrlValues`, `decodeJSON` and `decodeXML` all are -/
theorem thenValidate_ok_iff {d : Except ε Val} :
    (match d with
      | .error e => (.error (.codec e) : Except (BErr ε) Val)
      | .ok w => validate c w) = .ok v ↔ d = .ok v ∧ Passes c v := by
  cases d with
  | error e => simp
  | ok w =>
    simp only [validate_ok_iff, Except.ok.injEq]
    exact and_congr_right fun h => h ▸ Iff.rfl

theorem decodeUrlValues_ok_iff {t : Tag} {vals : Vals} :
    decodeUrlValues c t vals = .ok v ↔ c.decodeValues t vals = .ok v ∧ Passes c v :=
  thenValidate_ok_iff

theorem bindJSON_ok_iff {b : Bytes} : bindJSON c b = .ok v ↔ c.decodeJSON b = .ok v ∧ Passes c v :=
  thenValidate_ok_iff

theorem bindXML_ok_iff {b : Bytes} : bindXML c b = .ok v ↔ c.decodeXML b = .ok v ∧ Passes c v :=
  thenValidate_ok_iff

end

/-! ### byte strings and toy codecs for Props/C18.lean -/

def mtUrlenc : Bytes := [0x61, 0x70, 0x70, 0x6C, 0x69, 0x63, 0x61, 0x74, 0x69, 0x6F, 0x6E, 0x2F, 0x78, 0x2D, 0x77, 0x77, 0x77, 0x2D, 0x66, 0x6F, 0x72, 0x6D, 0x2D, 0x75, 0x72, 0x6C, 0x65, 0x6E, 0x63, 0x6F, 0x64, 0x65, 0x64]
#guard mtUrlenc == Bytes.ofString "application/x-www-form-urlencoded"
def mtMultipart : Bytes := [0x6D, 0x75, 0x6C, 0x74, 0x69, 0x70, 0x61, 0x72, 0x74, 0x2F, 0x66, 0x6F, 0x72, 0x6D, 0x2D, 0x64, 0x61, 0x74, 0x61]
#guard mtMultipart == Bytes.ofString "multipart/form-data"
def mtJson : Bytes := [0x61, 0x70, 0x70, 0x6C, 0x69, 0x63, 0x61, 0x74, 0x69, 0x6F, 0x6E, 0x2F, 0x6A, 0x73, 0x6F, 0x6E]
#guard mtJson == Bytes.ofString "application/json"
def mtXmlApp : Bytes := [0x61, 0x70, 0x70, 0x6C, 0x69, 0x63, 0x61, 0x74, 0x69, 0x6F, 0x6E, 0x2F, 0x78, 0x6D, 0x6C]
#guard mtXmlApp == Bytes.ofString "application/xml"
def mtXmlText : Bytes := [0x74, 0x65, 0x78, 0x74, 0x2F, 0x78, 0x6D, 0x6C]
#guard mtXmlText == Bytes.ofString "text/xml"
def mtPlain : Bytes := [0x74, 0x65, 0x78, 0x74, 0x2F, 0x70, 0x6C, 0x61, 0x69, 0x6E]
#guard mtPlain == Bytes.ofString "text/plain"
def mtMixed : Bytes := [0x6D, 0x75, 0x6C, 0x74, 0x69, 0x70, 0x61, 0x72, 0x74, 0x2F, 0x6D, 0x69, 0x78, 0x65, 0x64]
#guard mtMixed == Bytes.ofString "multipart/mixed"
def mtJsonUpper : Bytes := [0x41, 0x70, 0x70, 0x6C, 0x69, 0x63, 0x61, 0x74, 0x69, 0x6F, 0x6E, 0x2F, 0x4A, 0x53, 0x4F, 0x4E]
#guard mtJsonUpper == Bytes.ofString "Application/JSON"
def methodPostLower : Bytes := [0x70, 0x6F, 0x73, 0x74]
#guard methodPostLower == Bytes.ofString "post"
def paramsCharset : Bytes := [0x3B, 0x20, 0x63, 0x68, 0x61, 0x72, 0x73, 0x65, 0x74, 0x3D, 0x75, 0x74, 0x66, 0x2D, 0x38]
#guard paramsCharset == Bytes.ofString "; charset=utf-8"
def paramsBoundaryJson : Bytes := [0x3B, 0x20, 0x62, 0x6F, 0x75, 0x6E, 0x64, 0x61, 0x72, 0x79, 0x3D, 0x61, 0x2F, 0x6A, 0x73, 0x6F, 0x6E]
#guard paramsBoundaryJson == Bytes.ofString "; boundary=a/json"
def paramsSlashXml : Bytes := [0x3B, 0x20, 0x78, 0x3D, 0x2F, 0x78, 0x6D, 0x6C]
#guard paramsSlashXml == Bytes.ofString "; x=/xml"
def paramsUrlencMarker : Bytes := [0x3B, 0x20, 0x78, 0x3D, 0x2F, 0x78, 0x2D, 0x77, 0x77, 0x77, 0x2D, 0x66, 0x6F, 0x72, 0x6D, 0x2D, 0x75, 0x72, 0x6C, 0x65, 0x6E, 0x63, 0x6F, 0x64, 0x65, 0x64]
#guard paramsUrlencMarker == Bytes.ofString "; x=/x-www-form-urlencoded"
def sampleSeparators : Bytes := [0x61, 0x26, 0x62, 0x3D, 0x63, 0x2B, 0x64, 0x20, 0x25, 0x3B, 0xC3, 0xA9]
#guard sampleSeparators == Bytes.ofString "a&b=c+d %;é"
def sampleEscaped : Bytes := [0x61, 0x25, 0x32, 0x36, 0x62, 0x25, 0x33, 0x44, 0x63, 0x25, 0x32, 0x42, 0x64, 0x2B, 0x25, 0x32, 0x35, 0x25, 0x33, 0x42, 0x25, 0x43, 0x33, 0x25, 0x41, 0x39]
#guard sampleEscaped == Bytes.ofString "a%26b%3Dc%2Bd+%25%3B%C3%A9"
def sampleVB : Bytes := [0x76, 0x3D, 0x42]
#guard sampleVB == Bytes.ofString "v=B"
def sampleVA : Bytes := [0x76, 0x3D, 0x41]
#guard sampleVA == Bytes.ofString "v=A"
def sampleValue : Bytes := [0x42, 0x26, 0x3D, 0x2B, 0x25]
#guard sampleValue == Bytes.ofString "B&=+%"

/-- toy codecs: the bound value is the first value of key `v`, or the body; the validator (when on) requires it non-empty -/
def demoCodecs (validatorOn : Bool) : Codecs Bytes Unit where
  decodeValues := fun _ vals => .ok ((valsGet vals [0x76]).headD [])
  decodeJSON := fun b => .ok b
  decodeXML := fun b => .ok b
  validator := if validatorOn then some (fun v => if v.isEmpty then .error () else .ok ()) else none

def demoRequest (method ctype rawQuery body : Bytes) : Request Unit where
  method := method
  ctype := ctype
  rawQuery := rawQuery
  body := body
  header := []
  mclass := .urlenc
  multipartValues := .error ()

end Rux.Bind
