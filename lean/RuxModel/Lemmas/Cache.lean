import RuxModel.Model.Cache
import RuxModel.Lemmas.List
/-
  The cache model: what `Set` and `Get` do to the list of entries (`set_items_*`, `get_elim`); every operation keeps `Inv`,
  and `Coherent dyn` as long as `Set` stores what `dyn` returns.  The property theorems are in Props/C14.lean and C07.lean.
-/
namespace Rux

variable {K V : Type} [DecidableEq K]

theorem mem_rmKey {k : K} {l : List (K × V)} {x : K × V} : x ∈ rmKey k l ↔ x ∈ l ∧ x.1 ≠ k := by
  simp [rmKey, List.mem_filter]

theorem rmKey_sublist {k : K} {l : List (K × V)} : (rmKey k l).Sublist l := List.filter_sublist

theorem any_key_iff {l : List (K × V)} {k : K} :
    l.any (fun x => decide (x.1 = k)) = true ↔ k ∈ l.map (·.1) := by
  simp only [List.any_eq_true, decide_eq_true_eq, List.mem_map]

theorem keys_rmKey (l : List (K × V)) (k : K) :
    (rmKey k l).map (·.1) = (l.map (·.1)).filter (fun x => !decide (x = k)) := by
  rw [List.filter_map]; rfl

theorem find?_rmKey_ne (l : List (K × V)) {k k' : K} (hne : k' ≠ k) :
    (rmKey k l).find? (fun x => decide (x.1 = k')) = l.find? (fun x => decide (x.1 = k')) :=
  find?_filter_of_imp l fun a ha => by rw [of_decide_eq_true ha]; simpa using hne

theorem find?_cons_key_ne {k k' : K} (hne : k' ≠ k) {v : V} {l : List (K × V)} :
    ((k, v) :: l).find? (fun x => decide (x.1 = k')) = l.find? (fun x => decide (x.1 = k')) :=
  List.find?_cons_of_neg (by simpa using hne.symm)

theorem find?_dropLast_of_any {α : Type} {p : α → Bool} {l : List α} (h : l.dropLast.any p = true) :
    l.dropLast.find? p = l.find? p := by
  obtain ⟨x, hx⟩ := Option.isSome_iff_exists.mp (List.find?_isSome.mpr (List.any_eq_true.mp h))
  rw [hx, (List.dropLast_prefix l).find?_eq_some hx]

namespace Cache

/-- the representation invariant: never more than `cap` entries, never two entries for one key -/
def Inv (c : Cache K V) : Prop :=
  c.items.length ≤ c.cap ∧ (c.items.map (·.1)).Nodup

/-- every cached binding equals what the pure function `dyn` returns for its key -/
def Coherent (dyn : K → Option V) (c : Cache K V) : Prop :=
  ∀ kv ∈ c.items, dyn kv.1 = some kv.2

omit [DecidableEq K] in
theorem empty_inv (cap : Nat) : (Cache.empty cap : Cache K V).Inv := by
  simp [Inv, empty]

section
variable (c : Cache K V) (k : K) (v : V)

theorem set_items_hit (h : k ∈ c.keys) :
    (c.set k v).items = (k, v) :: rmKey k c.items := by
  unfold set; rw [if_pos (any_key_iff.mpr h)]

theorem set_items_evict (h : k ∉ c.keys) (hl : c.cap ≤ c.len) :
    (c.set k v).items = ((k, v) :: c.items).dropLast := by
  unfold set; rw [if_neg (mt any_key_iff.mp h)]
  exact congrArg Cache.items (if_pos (Nat.lt_succ_of_le hl))

theorem set_items_room (h : k ∉ c.keys) (hl : c.len < c.cap) :
    (c.set k v).items = (k, v) :: c.items := by
  unfold set; rw [if_neg (mt any_key_iff.mp h)]
  exact congrArg Cache.items (if_neg (Nat.not_lt.mpr hl))

variable {c} {k} {v}

theorem mem_set_items {x : K × V} (h : x ∈ (c.set k v).items) :
    x = (k, v) ∨ x ∈ c.items := by
  revert h
  fun_cases set c k v with
  | case1 => exact fun h => (List.mem_cons.mp h).imp_right fun h => (mem_rmKey.mp h).1
  | case2 => exact fun h => List.mem_cons.mp (List.dropLast_subset _ h)
  | case3 => exact List.mem_cons.mp

theorem find?_of_lookup (h : c.lookup k = some v) :
    c.items.find? (fun x => decide (x.1 = k)) = some (k, v) := by
  obtain ⟨kv, hf, rfl⟩ := Option.map_eq_some_iff.mp h
  rw [hf, ← of_decide_eq_true (List.find?_some hf :)]

theorem mem_of_lookup (h : c.lookup k = some v) : (k, v) ∈ c.items :=
  List.mem_of_find?_eq_some (find?_of_lookup h)

theorem lookup_of_head? (h : c.items.head? = some (k, v)) :
    c.lookup k = some v := by
  obtain ⟨t, ht⟩ := List.head?_eq_some_iff.mp h
  rw [lookup, ht, List.find?_cons_of_pos (by simp)]
  rfl

theorem get_of_lookup_none (h : c.lookup k = none) : c.get k = (none, c) := by
  unfold get
  rw [Option.map_eq_none_iff.mp h]

theorem get_of_lookup_some (h : c.lookup k = some v) :
    c.get k = (some v, { c with items := (k, v) :: rmKey k c.items }) := by
  unfold get
  rw [find?_of_lookup h]

end

@[elab_as_elim] theorem get_elim {motive : Option V × Cache K V → Prop} (c : Cache K V) (k : K)
    (miss : c.lookup k = none → motive (none, c))
    (hit : ∀ v, c.lookup k = some v → motive (some v, { c with items := (k, v) :: rmKey k c.items })) :
    motive (c.get k) := by
  cases hl : c.lookup k with
  | none => exact get_of_lookup_none hl ▸ miss hl
  | some v => exact get_of_lookup_some hl ▸ hit v hl

theorem mem_get_items {c : Cache K V} {k : K} {x : K × V} : x ∈ (c.get k).2.items → x ∈ c.items := by
  refine get_elim c k (fun _ h => h) fun v hl h => ?_
  rcases List.mem_cons.mp h with rfl | h
  · exact mem_of_lookup hl
  · exact (mem_rmKey.mp h).1

@[simp] theorem set_cap (c : Cache K V) (k : K) (v : V) : (c.set k v).cap = c.cap := by
  fun_cases set c k v <;> rfl

@[simp] theorem get_cap (c : Cache K V) (k : K) : (c.get k).2.cap = c.cap := by
  fun_cases get c k <;> rfl

@[simp] theorem delete_cap (c : Cache K V) (k : K) : (c.delete k).2.cap = c.cap := rfl

@[simp] theorem step_cap (c : Cache K V) (op : CacheOp K V) : (c.step op).1.cap = c.cap := by
  cases op <;> simp [step, has]

theorem run_cap (ops : List (CacheOp K V)) : ∀ c : Cache K V, (c.run ops).cap = c.cap := by
  induction ops with
  | nil => intro c; rfl
  | cons op ops ih => intro c; simp [run, ih]

/-- what a `Get` hit and a `Set` of a present key both do -/
theorem Inv.move_front {c : Cache K V} (h : c.Inv) {k : K} (hk : k ∈ c.keys) (v : V) :
    Inv { c with items := (k, v) :: rmKey k c.items } := by
  obtain ⟨x, hx, rfl⟩ := List.mem_map.mp hk
  have hlt : (rmKey x.1 c.items).length < c.items.length :=
    List.length_filter_lt_length_iff_exists.mpr ⟨x, hx, by simp⟩
  -- `rmKey x.1` filters with `!decide (y.1 = x.1)`, which is what `y.1 != x.1` unfolds to
  exact ⟨Nat.le_trans hlt h.1, nodup_cons_filter (·.1) h.2 (x.1, v)⟩

theorem set_inv (c : Cache K V) (k : K) (v : V) (h : c.Inv) : (c.set k v).Inv := by
  unfold Inv
  rw [set_cap]
  by_cases hk : k ∈ c.keys
  · rw [set_items_hit c k v hk]; exact h.move_front hk v
  · have hnd : (((k, v) :: c.items).map (·.1)).Nodup := List.nodup_cons.mpr ⟨hk, h.2⟩
    by_cases hl : c.len < c.cap
    · rw [set_items_room c k v hk hl]; exact ⟨hl, hnd⟩
    · rw [set_items_evict c k v hk (Nat.not_lt.mp hl)]
      exact ⟨by simpa using h.1, (List.dropLast_sublist _).map _ |>.nodup hnd⟩

theorem get_inv (c : Cache K V) (k : K) (h : c.Inv) : (c.get k).2.Inv :=
  get_elim c k (fun _ => h) fun v hl => h.move_front (List.mem_map.mpr ⟨_, mem_of_lookup hl, rfl⟩) v

theorem delete_inv (c : Cache K V) (k : K) (h : c.Inv) : (c.delete k).2.Inv :=
  ⟨Nat.le_trans rmKey_sublist.length_le h.1, rmKey_sublist.map _ |>.nodup h.2⟩

theorem step_inv (c : Cache K V) (op : CacheOp K V) (h : c.Inv) : (c.step op).1.Inv := by
  cases op with
  | set k v => exact set_inv c k v h
  | get k => exact get_inv c k h
  | has k => exact get_inv c k h
  | del k => exact delete_inv c k h
  | len => exact h

theorem run_inv (ops : List (CacheOp K V)) : ∀ c : Cache K V, c.Inv → (c.run ops).Inv := by
  induction ops with
  | nil => intro c h; exact h
  | cons op ops ih => intro c h; exact ih _ (step_inv c op h)

/-! ### coherence with a pure function -/

omit [DecidableEq K] in
theorem empty_coherent (dyn : K → Option V) (cap : Nat) : Coherent dyn (Cache.empty cap) :=
  fun _ h => nomatch h

theorem get_coherent (dyn : K → Option V) (c : Cache K V) (k : K) (h : Coherent dyn c) :
    (∀ v, (c.get k).1 = some v → dyn k = some v) ∧ Coherent dyn (c.get k).2 := by
  refine ⟨get_elim c k (fun _ => nofun) fun v hl w hw => ?_, fun x hx => h x (mem_get_items hx)⟩
  cases hw
  exact h _ (mem_of_lookup hl)

theorem set_coherent (dyn : K → Option V) (c : Cache K V) (k : K) (v : V)
    (h : Coherent dyn c) (hv : dyn k = some v) : Coherent dyn (c.set k v) := by
  intro x hx
  rcases mem_set_items hx with rfl | hx
  · exact hv
  · exact h x hx

theorem delete_coherent (dyn : K → Option V) (c : Cache K V) (k : K) (h : Coherent dyn c) :
    Coherent dyn (c.delete k).2 := by
  intro x hx
  exact h x (mem_rmKey.mp hx).1

end Cache
end Rux
