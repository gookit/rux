import RuxModel.Model.Dispatch
/-
  Lemmas about the dispatch model (used by Props/C09.lean and Props/C10.lean).

  The model writes "run this, and go on only if it returned normally" as nested `match`es; `Out.andThen` names that, and
  the equations that follow the definitions present `loop`, `body` and `handleRequest` through it, so that no proof about
  arbitrary handlers unfolds them.  `Run q st o` is what running anything from state `st` with result `o` keeps; it is
  closed under sequencing, so it lifts from single actions to `runS`, `runActs`, `loop`, `body`.  That the model never
  leaves its fragment depends on the list position as well: a second, short induction (`loop_noOff`) that takes
  everything it needs to know about the state from `Run`.
-/
namespace Rux.Dispatch

/-! ### the definitions in which C09 (`Zone`, `commitOf`) and C10 (`PoolOk`, `pristineObs`) are stated -/

/-- where a trace event comes from: the chain (handlers, OnError), the body of the OnPanic hook,
    or the two marks around the hook -/
inductive Zone
  | chain
  | hook
  | frame
  deriving DecidableEq, Repr

def Pos.zone : Pos → Zone
  | .hook => .hook
  | _ => .chain

def TEv.zone : TEv → Zone
  | .hookEnter => .frame
  | .hookLeave => .frame
  | .mark p _ => p.zone
  | .panicked p _ => p.zone
  | .got p _ _ => p.zone
  | .obs p _ => p.zone
  | _ => .chain

/-- the header commit that `ensureWriteHeader` sends for a writer in state `w` -/
def commitOf (w : Writer) : List WEv :=
  if w.length = noWritten then [.wh (.under w.under) (if w.status = 0 then 200 else w.status)] else []

/-- every context in the pool was created by this router's `ctxPool.New` -/
def PoolOk (rid : Nat) (pool : List Ctx) : Prop := ∀ c ∈ pool, c.router = rid

/-- what `handleHTTPRequest` itself stores before the first handler runs -/
def preludeData : Kind → Data
  | .route _ name path => mapSet (mapSet [] keyRouteName (.str name)) keyRoutePath (.str path)
  | .notAllowed al => [(keyAllowed, .strs al)]
  | .notFound => []

def preludeParams : Kind → Params
  | .route ps _ _ => ps
  | _ => none

def pristineObs (rid : Nat) (rq : Req) : Obs :=
  { data := preludeData rq.kind, params := preludeParams rq.kind, errors := [], aborted := false,
    status := 0, length := -1, resp := .own, req := .orig rq.r, raw := some rq.w, router := rid }

variable (cfg : Cfg) (rq : Req) (c : Ctx)

/-! ### the model's functions as sequences -/

def liftP (r : St × Option PVal) : Out := (r.1, r.2.map Stop.panic)

def Out.andThen (o : Out) (k : St → Out) : Out :=
  match o with
  | (s, none) => k s
  | r => r

/-- `c.index++` -/
def St.bump (st : St) : St := { st with ctx := { st.ctx with index := st.ctx.index + 1 } }

/-- the deferred function of `PanicsHandler`: a panic is answered by `c.Resp.WriteHeader(500)` -/
def recover500 (i : Nat) (o : Out) : Out :=
  match o with
  | (s, some (.panic _)) => liftP (respWriteHeader (.h i) s 500)
  | r => r

/-- `c.handlers[c.index](c)` for the handler at position `i`; `k` is `c.Next()` -/
def runHandler (k : St → Out) (i : Nat) : Handler → St → Out
  | .acts l, st => (runActs k i l (st.ev (.enter i))).andThen fun s => (s.ev (.leave i), none)
  | .builtin l, st => liftP (runS (.h i) l st)
  | .panicsHandler, st => recover500 i (k st)

theorem runS_cons (p : Pos) (a : SAct) (l : List SAct) (st : St) :
    liftP (runS p (a :: l) st) = (liftP (stepS p a st)).andThen fun s => liftP (runS p l s) := by
  rw [runS]; rcases stepS p a st with ⟨s, _ | v⟩ <;> rfl

theorem runActs_next (k : St → Out) (i : Nat) (l : List Act) (st : St) :
    runActs k i (.next :: l) st = (k st).andThen (runActs k i l) := by
  rw [runActs]; rcases k st with ⟨s, _ | v⟩ <;> rfl

theorem runActs_s (k : St → Out) (i : Nat) (a : SAct) (l : List Act) (st : St) :
    runActs k i (.s a :: l) st = (liftP (stepS (.h i) a st)).andThen (runActs k i l) := by
  rw [runActs]; rcases stepS (.h i) a st with ⟨s, _ | v⟩ <;> rfl

theorem loop_due {i : Nat} {st : St} {h : Handler} {rest : List Handler} (hlt : st.ctx.index < st.last)
    (hi : st.ctx.index + 1 = (i : Int)) :
    loop i (h :: rest) st = (runHandler (loop (i + 1) rest) i h st.bump).andThen (loop (i + 1) rest) := by
  rw [loop, if_pos hlt, if_pos hi]
  cases h <;> simp only [runHandler, St.bump]
  · rcases runActs (loop (i + 1) rest) i _ _ with ⟨s, _ | v⟩ <;> rfl
  · rcases runS (.h i) _ _ with ⟨s, _ | v⟩ <;> rfl
  · rcases loop (i + 1) rest _ with ⟨s, _ | v | _⟩
    · rfl
    · simp only [recover500]; rcases respWriteHeader (.h i) s 500 with ⟨s3, _ | v3⟩ <;> rfl
    · rfl

/-- the cursor is ahead (after an `Abort` or a recovered panic): the loop walks on; behind: the model gives up -/
theorem loop_not_due {i : Nat} {st : St} {h : Handler} {rest : List Handler} (hlt : st.ctx.index < st.last)
    (hi : st.ctx.index + 1 ≠ (i : Int)) :
    loop i (h :: rest) st = if (i : Int) < st.ctx.index + 1 then loop (i + 1) rest st else (st, some .off) := by
  rw [loop, if_pos hlt, if_neg hi]

theorem loop_done {i : Nat} {hs : List Handler} {st : St} (h : ¬ st.ctx.index < st.last) :
    loop i hs st = (st, none) := by
  cases hs <;> rw [loop, if_neg h]

theorem body_eq :
    body cfg rq c = (loop 0 rq.chain (start rq c)).andThen fun s1 =>
      (liftP (runOnError cfg s1)).andThen fun s2 => (ensureWH s2, none) := by
  unfold body
  rcases loop 0 rq.chain (start rq c) with ⟨s1, _ | x⟩
  · simp only [Out.andThen]; rcases runOnError cfg s1 with ⟨s2, _ | v⟩ <;> rfl
  · rfl

theorem handleRequest_no_hook (hh : cfg.hook = none) : handleRequest cfg rq c = body cfg rq c := by
  rw [handleRequest, hh]

theorem handleRequest_hook {cfg : Cfg} {rq : Req} {c : Ctx} {hk : List SAct} {st : St} {v : PVal}
    (hh : cfg.hook = some hk) (hb : body cfg rq c = (st, some (.panic v))) :
    handleRequest cfg rq c =
      (liftP (runS .hook hk (hookStart v st))).andThen fun s => (ensureWH (s.ev .hookLeave), none) := by
  rw [handleRequest, hh]
  simp only [hb]
  rcases runS .hook hk (hookStart v st) with ⟨s, _ | v'⟩ <;> rfl

theorem handleRequest_cases :
    handleRequest cfg rq c = body cfg rq c ∨
    ∃ hk st v, cfg.hook = some hk ∧ body cfg rq c = (st, some (.panic v)) := by
  fun_cases handleRequest cfg rq c
  case case2 hh _ _ hb _ _ => exact .inr ⟨_, _, _, hh, hb⟩
  case case3 hh _ _ hb _ _ _ => exact .inr ⟨_, _, _, hh, hb⟩
  all_goals exact .inl rfl

/-! ### `Run` -/

/-- The part of `Run` that a client or a later request can see.  It is never established on its own: every lemma
    below proves `Run`, which adds what the loop needs. -/
structure Good (q : Zone) (st : St) (o : Out) : Prop where
  router : o.1.ctx.router = st.ctx.router
  wlen : noWritten ≤ st.ctx.writer.length → noWritten ≤ o.1.ctx.writer.length
  trace : ∃ evs, o.1.trace = st.trace ++ evs ∧ (∀ e ∈ evs, e.zone = q) ∧
            ∀ v, o.2 = some (.panic v) → ∃ pre p, evs = pre ++ [.panicked p v]

/-- `cursor`: `Abort` sets the cursor to `abortIndex`; no other step moves it back -/
structure Run (q : Zone) (st : St) (o : Out) : Prop extends Good q st o where
  handlers : o.1.ctx.handlers = st.ctx.handlers
  cursor : min st.ctx.index abortIndex ≤ o.1.ctx.index

variable {q : Zone}

theorem Run.silent {st st' : St} (ht : st'.trace = st.trace) (hr : st'.ctx.router = st.ctx.router)
    (hh : st'.ctx.handlers = st.ctx.handlers) (hi : min st.ctx.index abortIndex ≤ st'.ctx.index)
    (hw : noWritten ≤ st.ctx.writer.length → noWritten ≤ st'.ctx.writer.length) : Run q st (st', none) :=
  ⟨⟨hr, hw, [], by simp [ht], by simp, by simp⟩, hh, hi⟩

theorem Run.refl (st : St) : Run q st (st, none) := .silent rfl rfl rfl (Int.min_le_left ..) id

theorem Run.off (st : St) : Run q st (st, some .off) :=
  ⟨⟨rfl, id, [], by simp, by simp, by simp⟩, rfl, Int.min_le_left ..⟩

theorem Run.ev (st : St) (e : TEv) (he : e.zone = q) : Run q st (st.ev e, none) :=
  ⟨⟨rfl, id, [e], rfl, List.forall_mem_singleton.mpr he, nofun⟩, rfl, Int.min_le_left ..⟩

theorem Run.panic (st : St) (p : Pos) (v : PVal) (he : (TEv.panicked p v).zone = q) :
    Run q st (st.ev (.panicked p v), some (.panic v)) :=
  ⟨⟨rfl, id, [.panicked p v], rfl, List.forall_mem_singleton.mpr he, fun v' h => by
    cases h
    exact ⟨[], p, rfl⟩⟩, rfl, Int.min_le_left ..⟩

/-- runs compose, whether the first part returned or was recovered from -/
theorem Run.bind {st st1 : St} {x : Option Stop} {o : Out} (h1 : Run q st (st1, x)) (h2 : Run q st1 o) :
    Run q st o := by
  obtain ⟨⟨r1, w1, e1, t1, p1, _⟩, g1, c1⟩ := h1
  obtain ⟨⟨r2, w2, e2, t2, p2, f2⟩, g2, c2⟩ := h2
  refine ⟨⟨r2.trans r1, fun h => w2 (w1 h), e1 ++ e2, by rw [t2, t1, List.append_assoc],
    List.forall_mem_append.mpr ⟨p1, p2⟩, fun v hv => ?_⟩, g2.trans g1,
    Int.le_trans (Int.le_min.mpr ⟨c1, Int.min_le_right ..⟩) c2⟩
  obtain ⟨pre, p, hp⟩ := f2 v hv
  exact ⟨e1 ++ pre, p, by rw [hp, List.append_assoc]⟩

theorem Run.andThen {st : St} {o : Out} {k : St → Out} (h1 : Run q st o) (h2 : ∀ s, Run q s (k s)) :
    Run q st (o.andThen k) := by
  rcases o with ⟨s, _ | x⟩
  · exact h1.bind (h2 s)
  · exact h1

/-! ### single actions -/

theorem ensureWH_run (st : St) : Run q st (ensureWH st, none) := by
  fun_cases ensureWH st
  · exact .silent rfl rfl rfl (Int.min_le_left ..) fun _ => (by decide : noWritten ≤ 0)
  · exact .refl st

theorem ensureWH_trace (st : St) : (ensureWH st).trace = st.trace := by
  fun_cases ensureWH st <;> rfl

theorem ownWriteHeader_run (st : St) (code : Int) : Run q st (ownWriteHeader st code, none) := by
  fun_cases ownWriteHeader st code
  · exact .silent rfl rfl rfl (Int.min_le_left ..) id
  · exact .refl st

theorem stepS_run (p : Pos) (a : SAct) (st : St) : Run p.zone st (liftP (stepS p a st)) := by
  -- the cases are numbered in the order of the branches of `stepS` (with those of its inner `match`es)
  fun_cases stepS p a st
  case case1 | case15 | case16 => exact .ev st _ rfl                 -- emit, get, dump
  case case2 | case5 | case11 => exact .panic st p _ rfl            -- panic, nil `Params`, nil `Resp`
  case case7 => exact .silent rfl rfl rfl (Int.min_le_right ..) id   -- Abort
  case case8 code => exact ownWriteHeader_run st code
  case case9 b _ =>                                                  -- Write
    unfold ownWrite
    exact (ensureWH_run st).bind <| .silent rfl rfl rfl (Int.min_le_left ..) fun h =>
      Int.le_trans h (Int.le_add_of_nonneg_right (Int.natCast_nonneg _))
  case case12 code =>
    fun_cases respWriteHeader p st code
    · exact ownWriteHeader_run st code
    · exact .silent rfl rfl rfl (Int.min_le_left ..) id
    · exact .panic st p _ rfl
  all_goals exact .silent rfl rfl rfl (Int.min_le_left ..) id        -- another field, another writer's log

theorem bump_run (st : St) : Run q st (st.bump, none) :=
  .silent rfl rfl rfl (Int.le_trans (Int.min_le_left ..) (Int.le_add_of_nonneg_right (by decide))) id

theorem runS_run (p : Pos) : ∀ (l : List SAct) (st : St), Run p.zone st (liftP (runS p l st))
  | [], st => .refl st
  | a :: l, st => by rw [runS_cons]; exact (stepS_run p a st).andThen (runS_run p l)

/-! ### the chain -/

theorem runActs_run {k : St → Out} (hk : ∀ st, Run .chain st (k st)) (i : Nat) :
    ∀ (l : List Act) (st : St), Run .chain st (runActs k i l st)
  | [], st => .refl st
  | .next :: l, st => by rw [runActs_next]; exact (hk st).andThen (runActs_run hk i l)
  | .s a :: l, st => by rw [runActs_s]; exact (stepS_run (.h i) a st).andThen (runActs_run hk i l)

theorem Run.recover500 {st : St} {o : Out} (h : Run .chain st o) (i : Nat) : Run .chain st (recover500 i o) := by
  fun_cases Dispatch.recover500 i o
  · exact h.bind (stepS_run (.h i) (.respWH 500) _)
  · exact h

theorem runHandler_run {k : St → Out} (hk : ∀ st, Run .chain st (k st)) (i : Nat) (h : Handler) (st : St) :
    Run .chain st (runHandler k i h st) := by
  cases h with
  | acts l =>
    exact (Run.ev st (.enter i) rfl).bind
      ((runActs_run hk i l _).andThen fun s => .ev s (.leave i) rfl)
  | builtin l => exact runS_run (.h i) l st
  | panicsHandler => exact (hk st).recover500 i

theorem loop_run (hs : List Handler) (i : Nat) (st : St) : Run .chain st (loop i hs st) := by
  induction hs generalizing i st with
  | nil =>
    rw [loop]
    split
    · exact .off st
    · exact .refl st
  | cons h rest ih =>
    by_cases hlt : st.ctx.index < st.last
    · by_cases hi : st.ctx.index + 1 = (i : Int)
      · rw [loop_due hlt hi]
        exact ((bump_run st).bind (runHandler_run (ih (i + 1)) i h _)).andThen (ih (i + 1))
      · rw [loop_not_due hlt hi]
        split
        · exact ih (i + 1) st
        · exact .off st
    · rw [loop_done hlt]; exact .refl st

theorem runOnError_run (st : St) : Run .chain st (liftP (runOnError cfg st)) := by
  have h := fun eh => (Run.ev st .errEnter rfl : Run .chain _ _).bind (runS_run .onErr eh (st.ev .errEnter))
  fun_cases runOnError cfg st
  -- `hs : runS .onErr eh _ = (s, none)` (OnError returned) turns `h eh` into a run that ends in `s`
  case case3 eh _ _ s hs => exact (hs ▸ h eh).bind (.ev s .errLeave rfl)
  case case4 eh _ _ _ => exact h eh
  all_goals exact .refl st

theorem body_run : Run .chain (start rq c) (body cfg rq c) := by
  rw [body_eq]
  exact (loop_run rq.chain 0 _).andThen fun s1 => (runOnError_run cfg s1).andThen fun s2 => ensureWH_run s2

theorem body_panic_trace {cfg : Cfg} {rq : Req} {c : Ctx} {st : St} {v : PVal}
    (hb : body cfg rq c = (st, some (.panic v))) :
    ∃ pre p, st.trace = pre ++ [.panicked p v] ∧ ∀ e ∈ pre ++ [.panicked p v], e.zone = .chain := by
  obtain ⟨evs, ht, hz, hp⟩ := (body_run cfg rq c).trace
  rw [hb] at ht hp
  obtain ⟨pre, p, rfl⟩ := hp v rfl
  exact ⟨pre, p, ht.trans (List.nil_append _), hz⟩

/-! ### `Init` and the request prelude -/

/-- `Init` overwrites every field except `router` -/
theorem init_eq (w r : Nat) : c.init w r = (newCtx c.router).init w r := rfl

theorem init_router (w r : Nat) : (c.init w r).router = c.router := rfl

theorem set_router (c : Ctx) (k : Bytes) (v : Val) : (c.set k v).router = c.router := rfl

theorem prelude_router (k : Kind) (c : Ctx) : (prelude k c).router = c.router := by
  cases k <;> rfl

theorem start_index (hidx : c.index = -1) : (start rq c).ctx.index = -1 := by
  show (prelude rq.kind c).index = -1
  cases rq.kind <;> exact hidx

/-! ### the pool and `handleHTTPRequest` keep `ctx.router` -/

theorem poolGet_router {rid : Nat} {pool : List Ctx} (pick : Option Nat) (h : PoolOk rid pool) :
    (poolGet rid pool pick).1.router = rid ∧ PoolOk rid (poolGet rid pool pick).2 := by
  fun_cases poolGet rid pool pick
  case case2 n c hc => exact ⟨h c (List.mem_of_getElem? hc), fun c' hc' => h c' (List.mem_of_mem_eraseIdx hc')⟩
  all_goals exact ⟨rfl, h⟩

theorem handleRequest_router : (handleRequest cfg rq c).1.ctx.router = c.router := by
  have hb : (body cfg rq c).1.ctx.router = c.router :=
    (body_run cfg rq c).router.trans (prelude_router rq.kind c)
  rcases handleRequest_cases cfg rq c with h | ⟨hk, st, v, hh, hst⟩
  · rw [h, hb]
  · rw [hst] at hb
    have hr := (runS_run .hook hk (hookStart v st)).router
    rw [handleRequest_hook hh hst]
    generalize runS .hook hk (hookStart v st) = r at hr
    rcases r with ⟨s, _ | v'⟩
    · exact ((ensureWH_run (q := .hook) (s.ev .hookLeave)).router.trans hr).trans hb
    · exact hr.trans hb

/-! ### the model never leaves its fragment for chains of at most 64 handlers

  `Stop.off` is produced only when the cursor is BEHIND the list position.  A position is at most 64, so by
  `Run.cursor` a cursor that has reached `i - 1` stays there or beyond, whatever runs. -/

theorem liftP_noOff {r : St × Option PVal} : (liftP r).2 ≠ some .off := by
  rcases r with ⟨s, _ | v⟩ <;> simp [liftP]

theorem Out.andThen_noOff {o : Out} {k : St → Out} (h1 : o.2 ≠ some .off)
    (h2 : ∀ s, o = (s, none) → (k s).2 ≠ some .off) : (o.andThen k).2 ≠ some .off := by
  rcases o with ⟨s, _ | x⟩
  · exact h2 s rfl
  · exact h1

def Within (H : List Handler) (i : Nat) (s : St) : Prop :=
  s.ctx.handlers = H ∧ (i : Int) ≤ s.ctx.index + 1

theorem Run.within {H : List Handler} {i : Nat} {st : St} {o : Out} (h : Run q st o) (hi : i ≤ 64)
    (hst : Within H i st) : Within H i o.1 :=
  ⟨h.handlers.trans hst.1, by
    have hc := h.cursor; have := hst.2
    simp only [abortIndex, Facts.abortIndex] at hc; omega⟩

section
-- `hi` is `i + 1 ≤ 64`: what `Run.within` asks for at position `i + 1`
variable {H : List Handler} {k : St → Out} {i : Nat} (hi : i < 64) (hr : ∀ s, Run .chain s (k s))
  (hk : ∀ s, Within H (i + 1) s → (k s).2 ≠ some .off)
include hi hr hk

theorem runActs_noOff (l : List Act) (st : St) (h : Within H (i + 1) st) : (runActs k i l st).2 ≠ some .off := by
  induction l generalizing st with
  | nil => simp [runActs]
  | cons a l ih =>
    cases a with
    | next =>
      rw [runActs_next]
      exact Out.andThen_noOff (hk st h) fun s hs => ih s ((hs ▸ hr st).within hi h)
    | s a =>
      rw [runActs_s]
      exact Out.andThen_noOff liftP_noOff fun s hs => ih s ((hs ▸ stepS_run (.h i) a st).within hi h)

theorem runHandler_noOff (h : Handler) (st : St) (hst : Within H (i + 1) st) :
    (runHandler k i h st).2 ≠ some .off := by
  cases h with
  | acts l =>
    exact Out.andThen_noOff (runActs_noOff hi hr hk l _ ((Run.ev st (.enter i) rfl : Run .chain _ _).within hi hst))
      fun _ _ => by simp
  | builtin l => exact liftP_noOff
  | panicsHandler =>
    have := hk st hst
    show (recover500 i (k st)).2 ≠ _
    generalize k st = o at this
    rcases o with ⟨s, _ | v | _⟩
    · exact this
    · exact liftP_noOff
    · exact this

end

theorem loop_noOff {H : List Handler} (h64 : H.length ≤ 64) (hs : List Handler) (i : Nat) (st : St)
    (hlen : i + hs.length = H.length) (hw : Within H i st) : (loop i hs st).2 ≠ some .off := by
  induction hs generalizing i st with
  | nil =>
    rw [loop_done (hs := [])]
    · simp
    · rw [St.last, hw.1, ← hlen]
      exact Int.not_lt.mpr (Int.sub_right_le_of_le_add hw.2)
  | cons h rest ih =>
    simp only [List.length_cons] at hlen
    have hi64 : i < 64 := by omega
    have hk := fun s => ih (i + 1) s (by omega)
    by_cases hlt : st.ctx.index < st.last
    · by_cases hi : st.ctx.index + 1 = (i : Int)
      · -- handler `i` runs; whatever it does, the cursor stays at or beyond `i`, which is what the rest needs
        have hw' : Within H (i + 1) st.bump := ⟨hw.1, Int.add_le_add_right (Int.le_of_eq hi.symm) 1⟩
        have hr := loop_run rest (i + 1)
        rw [loop_due hlt hi]
        exact Out.andThen_noOff (runHandler_noOff hi64 hr hk h _ hw') fun s hs =>
          hk s ((hs ▸ runHandler_run hr i h _).within hi64 hw')
      · have hgt : (i : Int) < st.ctx.index + 1 := Int.lt_iff_le_and_ne.mpr ⟨hw.2, Ne.symm hi⟩
        rw [loop_not_due hlt hi, if_pos hgt]
        exact hk st ⟨hw.1, Int.add_one_le_of_lt hgt⟩
    · rw [loop_done hlt]; simp

/-- No theorem establishes `Fwd` and none uses it: in a chain of more than 64 handlers a run breaks `le63` and `mono`
    (the cursor passes 63, and `Abort` then moves it back), whereas the one-sided `Run.cursor` holds for chains of any
    length and is all that `loop_noOff` needs. -/
structure Fwd (st : St) (o : Out) : Prop where
  noOff : o.2 ≠ some .off
  mono : st.ctx.index ≤ o.1.ctx.index
  le63 : o.1.ctx.index ≤ 63
  handlers : o.1.ctx.handlers = st.ctx.handlers

/-! ### the recovered value; status, commit and body as the client gets them -/

theorem mapGet_mapSet_same {α : Type} (m : List (Bytes × α)) (k : Bytes) (v : α) :
    mapGet (mapSet m k v) k = some v := by
  induction m with
  | nil => simp [mapSet, mapGet]
  | cons kv t ih => by_cases h : kv.1 = k <;> simp [mapSet, mapGet, h, ih]

theorem ownWriteHeader_pos {st : St} {code : Int} (hc : code > 0) :
    ownWriteHeader st code = { st with ctx := { st.ctx with writer := { st.ctx.writer with status := code } } } := by
  fun_cases ownWriteHeader st code
  · rfl
  · next h =>
    have : st.ctx.writer.status = code := Decidable.byContradiction fun hne => h ⟨hc, hne⟩
    rw [← this]

theorem ensureWH_committed (st : St) : (ensureWH st).ctx.writer.length ≠ noWritten := by
  fun_cases ensureWH st
  · exact (by decide : (0 : Int) ≠ noWritten)
  · assumption

theorem ensureWH_log (st : St) : (ensureWH st).log = st.log ++ commitOf st.ctx.writer := by
  unfold commitOf
  fun_cases ensureWH st
  · next h _ => rw [if_pos h]
  · next h => rw [if_neg h, List.append_nil]

theorem ownWrite_log (st : St) (b : Bytes) :
    (ownWrite st b).log = st.log ++ commitOf st.ctx.writer ++ [.wr (.under st.ctx.writer.under) b] := by
  have hu : (ensureWH st).ctx.writer.under = st.ctx.writer.under := by fun_cases ensureWH st <;> rfl
  show (ensureWH st).log ++ [.wr (.under (ensureWH st).ctx.writer.under) b] = _
  rw [ensureWH_log, hu]

theorem ownWrite_committed {st : St} (h : noWritten ≤ st.ctx.writer.length) (b : Bytes) :
    (ownWrite st b).ctx.writer.length ≠ noWritten := by
  -- `noWritten` < the length after `ensureWriteHeader` ≤ that length + `len(b)`
  have h1 := Int.lt_iff_le_and_ne.mpr ⟨(ensureWH_run (q := .chain) st).wlen h, (ensureWH_committed st).symm⟩
  exact Int.ne_of_gt (Int.lt_of_lt_of_le h1 (Int.le_add_of_nonneg_right (Int.natCast_nonneg b.length)))

/-! ### what the first handler sees; the trace only grows -/

theorem Good.prefix {st : St} {o : Out} (h : Good q st o) : st.trace <+: o.1.trace := by
  obtain ⟨evs, ht, _⟩ := h.trace
  exact ⟨evs, ht.symm⟩

theorem Out.andThen_prefix {t : List TEv} {o : Out} {k : St → Out} (h1 : t <+: o.1.trace)
    (h2 : ∀ s, s.trace <+: (k s).1.trace) : t <+: (o.andThen k).1.trace := by
  rcases o with ⟨s, _ | x⟩
  · exact h1.trans (h2 s)
  · exact h1

theorem loop_first_dump {l : List Act} {rest : List Handler} {st : St} (hidx : st.ctx.index = -1)
    (hh : st.ctx.handlers = .acts (.s .dump :: l) :: rest) :
    st.trace ++ [.enter 0, .obs (.h 0) ({ st.ctx with index := 0 } : Ctx).observe] <+:
      (loop 0 (.acts (.s .dump :: l) :: rest) st).1.trace := by
  have hlt : st.ctx.index < st.last := by
    simp only [St.last, hh, hidx, List.length_cons]; omega
  rw [loop_due hlt (by rw [hidx]; rfl)]
  -- peel off what only appends: the rest of the loop, handler 0's `leave`, the rest of its body
  refine Out.andThen_prefix (Out.andThen_prefix ?_ fun s => ⟨[.leave 0], rfl⟩) fun s => (loop_run rest 1 s).prefix
  rw [runActs_s]
  refine Out.andThen_prefix ?_ fun s => (runActs_run (loop_run rest 1) 0 l s).prefix
  simp [stepS, liftP, St.ev, St.bump, hidx]

theorem body_prefix : (loop 0 rq.chain (start rq c)).1.trace <+: (body cfg rq c).1.trace := by
  rw [body_eq]
  exact Out.andThen_prefix (List.prefix_refl _) fun s1 =>
    ((runOnError_run cfg s1).andThen fun s2 => ensureWH_run s2).prefix

theorem handleRequest_prefix : (body cfg rq c).1.trace <+: (handleRequest cfg rq c).1.trace := by
  rcases handleRequest_cases cfg rq c with h | ⟨hk, st, v, hh, hst⟩
  · rw [h]; exact List.prefix_refl _
  · rw [handleRequest_hook hh hst, hst]
    exact Out.andThen_prefix
      ((List.prefix_append st.trace [.hookEnter]).trans (runS_run .hook hk (hookStart v st)).prefix)
      fun s => ⟨[.hookLeave], (ensureWH_trace (s.ev .hookLeave)).symm⟩

end Rux.Dispatch