import RuxModel.Generated.Code
import RuxModel.Model.URLBuild
import RuxModel.Lemmas.Rt
/-
  extends.go `BuildRequestURL.Build` as generated = the model's `buildPath` / `splitArgs` (Model/URLBuild.lean).

  Parameters of the translation, instantiated here with the model's functions: `findAll` (what
  `varRegex.FindAllString(path, -1)` returns) := `findVars`, `replacer` (`strings.NewReplacer(oldNews...).Replace`) :=
  `replaceAll` on the pairs of the flat old/new list.  `encode` (`url.Values.Encode`) and the visiting order `ordKV` of
  the argument map stay arbitrary: the theorem holds for each of them, with the model reading the arguments in the
  visiting order.
-/
namespace Rux
namespace Tie
open GoRt

/-- the flat `old1, new1, old2, new2, …` argument list of `strings.NewReplacer` as pairs -/
def pairUp : List Bytes → List (Bytes × Bytes)
  | a :: b :: t => (a, b) :: pairUp t
  | _ => []

def replacerM (on : List Bytes) (path : Bytes) : Bytes := replaceAll (pairUp on) (path.length + 1) path
def findAllM (path : Bytes) : List Bytes := findVars (path.length + 1) path

def flat (ps : List (Bytes × Bytes)) : List Bytes := ps.flatMap fun p => [p.1, p.2]

theorem pairUp_flat (ps : List (Bytes × Bytes)) : pairUp (flat ps) = ps := by
  induction ps with
  | nil => rfl
  | cons p t ih => simp only [flat, List.flatMap_cons, List.cons_append, List.nil_append, pairUp] at ih ⊢; rw [ih]

theorem replacerM_flat (ps : List (Bytes × Bytes)) (path : Bytes) :
    replacerM (flat ps) path = replaceAll ps (path.length + 1) path := by
  unfold replacerM; rw [pairUp_flat]

theorem flat_append (ps : List (Bytes × Bytes)) (a b : Bytes) : flat (ps ++ [(a, b)]) = flat ps ++ [a, b] := by
  simp [flat]

/-! ### the argument loop -/

/-- one iteration of the argument loop, with the model's test -/
def argStep (kd : Bytes × Bytes) (b : Gen.BRU) : Gen.BRU :=
  if isParamKey kd.1 then { b with params := GoRt.kvSet b.params kd.1 kd.2 }
  else { b with queries := b.queries ++ [(kd.1, kd.2)] }

theorem argGet_append (l : List (Bytes × Bytes)) (k v k' : Bytes) :
    argGet (l ++ [(k, v)]) k' = if k' = k then v else argGet l k' := by
  unfold argGet
  rw [List.reverse_append, List.reverse_singleton, List.singleton_append, List.find?_cons]
  by_cases h : k' = k
  · rw [if_pos h, decide_eq_true h.symm]
  · rw [if_neg h, decide_eq_false (Ne.symm h)]

/-- `l`: what the model's lookup of a path parameter reads so far: the builder's parameters, then the path arguments,
    latest binding wins -/
theorem args_fold (args : List (Bytes × Bytes)) (b : Gen.BRU) (l : List (Bytes × Bytes))
    (h : ∀ k, kvGetD b.params k = argGet l k) :
    let b' := args.foldl (fun b kd => argStep kd b) b
    b'.queries = b.queries ++ (splitArgs args).2 ∧
    (∀ k, kvGetD b'.params k = argGet (l ++ (splitArgs args).1) k) ∧
    b'.scheme = b.scheme ∧ b'.host = b.host ∧ b'.user = b.user := by
  induction args generalizing b l with
  | nil => simp [splitArgs, h]
  | cons kd t ih =>
    rw [List.foldl_cons, argStep]
    cases hq : isParamKey kd.1
    · simpa [splitArgs, hq] using ih { b with queries := b.queries ++ [(kd.1, kd.2)] } l h
    · simpa [splitArgs, hq] using ih { b with params := GoRt.kvSet b.params kd.1 kd.2 } (l ++ [(kd.1, kd.2)])
        fun k => by rw [kvGetD_kvSet, argGet_append, h]

/-! ### the matches of `varRegex`, as the model's `findVars` lists them (nothing generated here) -/

theorem lastCloseIdx_lt {region : Bytes} {k : Nat} (h : lastCloseIdx region = some k) : 1 ≤ k ∧ k < region.length := by
  unfold lastCloseIdx at h
  have hm := List.mem_of_getLast? h
  simp only [List.mem_filter, List.mem_range, Bool.and_eq_true, decide_eq_true_eq] at hm
  exact ⟨hm.2.1, hm.1⟩

theorem findVars_mem {n : Nat} {p s : Bytes} (h : s ∈ findVars n p) :
    ∃ region k, lastCloseIdx region = some k ∧ s = 0x7B :: region.take (k + 1) := by
  fun_induction findVars n p with
  | case1 | case2 => cases h
  | case3 _ _ _ k hk ih =>
    rcases List.mem_cons.mp h with rfl | h
    · exact ⟨_, k, hk, rfl⟩
    · exact ih h
  | case4 _ _ _ _ ih | case5 _ _ _ _ ih => exact ih h

theorem findVars_len (n : Nat) (p s : Bytes) (h : s ∈ findVars n p) : 2 ≤ s.length := by
  obtain ⟨region, k, hl, rfl⟩ := findVars_mem h
  have := lastCloseIdx_lt hl
  simp only [List.length_cons, List.length_take]
  omega

/-! ### the variable loop -/

/-- the key under which `Build` looks a `{…}` of the path up: `{name}` with the regex of `{name:regex}` stripped -/
def varKey (str : Bytes) : Bytes :=
  if (parseVar str).hasRegex then wrapBraces (parseVar str).name else str

theorem slice_inner (s : Bytes) (h : 2 ≤ s.length) :
    slice s 1 ((s.length : Int) - 1) = .ok ((s.drop 1).dropLast) := by
  rw [← Int.natCast_one, ← Int.natCast_sub (Nat.le_of_succ_le h),
    slice_nat s 1 (s.length - 1) (Nat.le_sub_one_of_lt h) (Nat.sub_le _ _), List.dropLast_eq_take, List.length_drop]

/-- the variable loop, for any body that appends `str, params[varKey str]` on the matches of `varRegex` (the translator's
    does); `n` and `name` are dead afterwards.  `L`: the caller `generalize`s the loop with `_` for its body, which is thus
    never written out -/
theorem var_loop (params : KV) {body : Bytes → Bytes × Bytes × List Bytes → Except Panic (ForInStep (Bytes × Bytes × List Bytes))}
    {l : List Bytes}
    (hb : ∀ a ∈ l, ∀ st, ∃ n, body a st = .ok (.yield (n, varKey a, st.2.2 ++ [a, kvGetD params (varKey a)])))
    {st : Bytes × Bytes × List Bytes} {L : Except Panic (Bytes × Bytes × List Bytes)} (hL : forIn l st body = L) :
    ∃ n k, L = .ok (n, k, st.2.2 ++ flat (l.map fun str => (str, kvGetD params (varKey str)))) := by
  subst hL
  induction l generalizing st with
  | nil => exact ⟨st.1, st.2.1, by simp [flat, pure, Except.pure]⟩
  | cons a t ih =>
    obtain ⟨n, hn⟩ := hb a (List.mem_cons_self ..) st
    obtain ⟨n', k', h⟩ := ih (fun s hs => hb s (List.mem_cons_of_mem _ hs))
      (st := (n, varKey a, st.2.2 ++ [a, kvGetD params (varKey a)]))
    exact ⟨n', k', by simp only [List.forIn_cons, hn, bind, Except.bind, h]; simp [flat]⟩

/-- the result of `Build`: the builder after the argument loop and the URL -/
def builtURL (b' : Gen.BRU) (encode : KV → Bytes) (path : Bytes) : Gen.URL :=
  { scheme := b'.scheme, user := b'.user, host := b'.host, path := path, rawQuery := encode b'.queries }

/-- **`Build(args)` as generated** never panics; the query arguments (keys without a brace) are appended to the
    queries in visiting order, and the path of the URL is the model's `buildPath` of the builder's path under "the
    builder's parameters, then the path arguments (keys with a brace), latest binding wins": every `{…}` of the path
    replaced, in one pass, by the value stored under `{name}`. -/
theorem tie_Build (b : Gen.BRU) (args : KV) (ordKV : KV → KV) (encode : KV → Bytes) :
    ∃ b', Gen.BRU.Build b [args] ordKV encode findAllM replacerM =
        .ok (b', builtURL b' encode (buildPath b.path (b.params.reverse ++ (splitArgs (ordKV args)).1))) ∧
      b'.queries = b.queries ++ (splitArgs (ordKV args)).2 ∧
      b'.scheme = b.scheme ∧ b'.host = b.host ∧ b'.user = b.user := by
  have hl0 : ∀ k, kvGetD b.params k = argGet b.params.reverse k := fun k => by
    simp only [kvGetD, argGet, List.reverse_reverse, Bool.beq_eq_decide_eq]
    rfl
  obtain ⟨hq, hp, hs, hh, hu⟩ := args_fold (ordKV args) b b.params.reverse hl0
  refine ⟨_, ?_, hq, hs, hh, hu⟩
  unfold Gen.BRU.Build
  rw [if_pos (show decide ((([args] : List KV).length : Int) > 0) = true from rfl)]
  simp only [bind, Except.bind, pure, Except.pure, show GoRt.listAt [args] 0 = .ok args from rfl]
  rw [forIn_yield _ (fun kd b => argStep kd b) fun a _ b0 => by
    -- `(↑i == -1)` computes to `false` for any `i`
    unfold argStep isParamKey GoRt.indexByte
    cases Bytes.indexByte a.1 123 <;> cases Bytes.indexByte a.1 125 <;> rfl]
  simp only
  generalize (ordKV args).foldl (fun b kd => argStep kd b) b = b' at hp
  generalize hL : forIn (m := Except Panic) (findAllM b.path) (([] : Bytes), ([] : Bytes), ([] : List Bytes)) _ = L
  obtain ⟨n, k, rfl⟩ := var_loop b'.params (fun a ha st => by
    -- the body: `nvStr := str[1:len-1]`, then the key, by the test `parseVar` makes
    rw [slice_inner a (findVars_len _ _ _ ha)]
    unfold varKey parseVar parseVarIn GoRt.indexByte splitN2
    simp only
    generalize (a.drop 1).dropLast = nv
    cases hi : Bytes.indexByte nv 58 with
    | none => simp
    | some pos =>
      by_cases hp : pos > 0
      · simp [hp, elemAt, wrapBraces]
      · simp [hp]) hL
  -- the model's `buildPath`, its lookups read from the builder
  unfold buildPath buildPairs findAllM varKey
  simp only [← hp, ← replacerM_flat, List.isEmpty_map]
  cases findVars (b.path.length + 1) b.path <;> rfl

end Tie
end Rux
