import RuxModel.Generated.Code
import RuxModel.Model.Chain
/-
  Tie: the definitions generated from context.go `Next`, `Abort`, `IsAborted` and the hand-written chain
  model (Model/Chain.lean).

  `Gen.Ctx.Next c call fuel` is the Go loop with the handler invocation `c.handlers[c.index](c)` as a parameter.
  Here that parameter is instantiated with the MODEL's reading of a handler (`modelCall`: the handler's action
  list interpreted by `Chain.runActs`, nested `Next()` calls answered by `Chain.next`).  `tie_Next` then says:
  the generated loop around model handlers is the model's `next` — i.e. `Chain.next` satisfies the recursive
  equation that the Go source defines (and that equation, being by recursion on the fuel, has one solution).
  The trace of events lives in the ghost field of the generated context record.
-/
namespace Rux
namespace Tie
open Chain

abbrev GCtx := Gen.Ctx (List Ev)

-- `len`: the generated record keeps `handlers : List Unit`, one slot per handler, so only their number is related
structure CRel (hs : List Handler) (c : GCtx) (st : St) : Prop where
  idx : c.index = st.idx
  trace : c.ghost = st.trace
  len : c.handlers.length = hs.length

/-- WHICH Go panic is not compared: the model's `Res` has one -/
def ResRel (hs : List Handler) : Except Panic (Option GCtx) → Res → Prop
  | .ok (some c), .ok st => CRel hs c st
  | .ok none, .fuel => True
  | .error _, .panic => True
  | _, _ => False

def modelCall (hs : List Handler) (fuel : Nat) (j : Int) (c : GCtx) : Except Panic (Option GCtx) :=
  if 0 ≤ j then
    match hs[j.toNat]? with
    | none => .error .index
    | some h =>
      match runActs (next hs fuel) j.toNat h { idx := c.index, trace := c.ghost ++ [.enter j.toNat] } with
      | .ok st2 => .ok (some { c with index := st2.idx, ghost := st2.trace ++ [.leave j.toNat] })
      | .panic => .error .value
      | .fuel => .ok none
  else .error .index

/-- `c0`: the receiver, which the loop's own variable shadows -/
theorem tie_loop (hs : List Handler) : ∀ (f : Nat) (c0 c : GCtx) (st : St), CRel hs c st →
    ResRel hs ((Gen.Ctx.Next.loop1 c0 (modelCall hs) f (c, GoRt.wrap8 (GoRt.wrap8 (hs.length : Int) - 1))).map
        (fun o => o.map (·.1))) (next hs f st) := by
  intro f
  induction f with
  | zero => exact fun _ _ _ _ => trivial
  | succ f ih =>
    intro c0 c st ⟨hi, ht, hl⟩
    have hw : GoRt.wrap8 = Chain.wrap8 := rfl
    simp only [Gen.Ctx.Next.loop1, next, modelCall, hi, ht, hw] at ih ⊢
    -- a tactic that splits a goal `ResRel hs x y` evaluates `x` and `y` as far as it can: keep the `int8` terms opaque
    generalize Chain.wrap8 (Chain.wrap8 (hs.length : Int) - 1) = last at ih ⊢
    generalize Chain.wrap8 (st.idx + 1) = j
    by_cases hlt : st.idx < last
    · rw [if_pos (decide_eq_true hlt), if_pos hlt]
      by_cases hj : 0 ≤ j
      · rw [if_pos hj, if_pos hj]
        cases hs[j.toNat]? with
        | none => trivial
        | some h =>
          dsimp only
          cases runActs (next hs f) j.toNat h { idx := j, trace := st.trace ++ [Ev.enter j.toNat] } with
          | ok st2 => exact ih _ _ _ ⟨rfl, rfl, hl⟩
          | panic => trivial
          | fuel => trivial
      · rw [if_neg hj, if_neg hj]
        trivial
    · rw [if_neg (mt of_decide_eq_true hlt), if_neg hlt]
      exact ⟨hi, ht, hl⟩

theorem tie_Next (hs : List Handler) (f : Nat) (c : GCtx) (st : St) (h : CRel hs c st) :
    ResRel hs (Gen.Ctx.Next c (modelCall hs) f) (next hs f st) := by
  have := tie_loop hs f c c st h
  unfold Gen.Ctx.Next
  simp only [h.len]
  -- `Next` is `loop1` followed by the projection under which `tie_loop` is stated; case by case it is the same result
  revert this
  cases Gen.Ctx.Next.loop1 c (modelCall hs) f (c, GoRt.wrap8 (GoRt.wrap8 (hs.length : Int) - 1)) with
  | error e => exact id
  | ok o => cases o <;> exact id

theorem tie_Next_ok {hs : List Handler} {f : Nat} {c : GCtx} {st st' : St} (h : CRel hs c st)
    (hn : next hs f st = .ok st') : ∃ c', Gen.Ctx.Next c (modelCall hs) f = .ok (some c') ∧ CRel hs c' st' := by
  have ht := tie_Next hs f c st h
  rw [hn] at ht
  generalize Gen.Ctx.Next c (modelCall hs) f = x at ht
  rcases x with _ | _ | c'
  · exact ht.elim
  · exact ht.elim
  · exact ⟨c', rfl, ht⟩

theorem tie_Abort (c : GCtx) : Gen.Ctx.Abort c = { c with index := Chain.abortIndex } := rfl

theorem tie_IsAborted (c : GCtx) : Gen.Ctx.IsAborted c = decide (c.index ≥ Chain.abortIndex) := rfl

end Tie
end Rux
