import RuxModel.Generated.Code
import RuxModel.Model.Pattern
import RuxModel.Tie.URL
import RuxModel.Lemmas.Bytes
/-
  Pattern compilation as generated — parse_match.go `parseParamRoute`, utils.go `checkAndParseOptional`,
  `quotePointChar`, `getGlobalVar`, route.go `goodRegexString`, `goodRegexGroups` — against the model's
  `compileRouteIn` (Model/Pattern.lean), which follows the string rewriting of the Go code up to the source text of the
  route's regexp.

  Parameters of the translation, instantiated with the model's functions:
    `findAll`     (varRegex.FindAllString)                := findVars          (as in Tie/URL.lean)
    `replacer`    (strings.NewReplacer(o/n...).Replace)   := replaceAll on the pairs of the flat old/new list
    `gv`          (the package-level map globalVars)      := the model's list of global variables
    `mustCompile` (regexp.MustCompile)                    := fails exactly on text that is not valid UTF-8
    `numSubexp`   ((*Regexp).NumSubexp)                   := countGroups of the text between `^` and `$`
  (the last two are what the model's `finish` assumes of the regexp library; the engines `route`, `rcache`, `total`
  compare them with the real library through the regexp text and the accept/reject decision of every registration).

  `stages` is the decision tree of `compileRouteIn` with its leaves left open.  The model is its reading at the model's
  leaves (`compileRouteIn_eq`); `parseParamRoute_stages`, the one walk through the generated function, which the lemmas
  before it serve, is its reading at `Prop`-valued leaves.  `stages_rel` puts two readings side by side: the ties are read off.
-/
namespace Rux
namespace Tie
open GoRt

/-- the text between `^` and `$` -/
def innerText (s : Bytes) : Bytes := (s.drop 1).dropLast

theorem innerText_wrap (r : Bytes) : innerText ([0x5E] ++ r ++ [0x24]) = r := by
  simp [innerText]

def mustCompileM (s : Bytes) : Except Panic Unit :=
  if Bytes.validUTF8 (innerText s) then .ok () else .error .value

def numSubexpM (o : Option Bytes) : Int :=
  match o with
  | some s => (countGroups (innerText s) 0 : Nat)
  | none => 0

/-- the code tests `strings.IndexByte(path, '.') > 0`: hence the hypothesis -/
theorem quotePointChar_eq (p : Bytes) (h : p.head? ≠ some 0x2E) : Gen.quotePointChar p = Bytes.quoteDots p := by
  unfold Gen.quotePointChar GoRt.indexByte
  cases hi : Bytes.indexByte p 46 with
  | none => simp [Bytes.quoteDots_no_dot hi]
  | some k =>
    cases k with
    | zero => exact absurd ((Bytes.indexByte_head p 46).mp hi) h
    | succ k => simp

/-- the panic is "Optional segments can only occur at the end of a route" (utils.go) -/
theorem tie_checkAndParseOptional (p : Bytes) :
    Gen.checkAndParseOptional p replacerM =
      match checkAndParseOptional p with
      | some r => .ok r
      | none => .error (Panic.msg [0x4F, 0x70, 0x74, 0x69, 0x6F, 0x6E, 0x61, 0x6C, 0x20, 0x73, 0x65, 0x67, 0x6D, 0x65, 0x6E, 0x74, 0x73, 0x20, 0x63, 0x61, 0x6E, 0x20, 0x6F, 0x6E, 0x6C, 0x79, 0x20, 0x6F, 0x63, 0x63, 0x75, 0x72, 0x20, 0x61, 0x74, 0x20, 0x74, 0x68, 0x65, 0x20, 0x65, 0x6E, 0x64, 0x20, 0x6F, 0x66, 0x20, 0x61, 0x20, 0x72, 0x6F, 0x75, 0x74, 0x65]) := by
  unfold Gen.checkAndParseOptional checkAndParseOptional
  -- trimming only shortens: the code's `int` difference is the model's natural one
  have hle : (Bytes.trimRightByte 0x5D p).length ≤ p.length := by
    obtain ⟨k, h, -⟩ := Bytes.trimLeft_decomp 0x5D p.reverse
    rw [Bytes.trimRightByte, List.length_reverse, ← p.length_reverse, congrArg List.length h, List.length_append]
    exact Nat.le_add_left ..
  simp only [bind, Except.bind, pure, Except.pure, ← Int.natCast_sub hle, bne_iff_ne, ne_eq, Int.natCast_inj, throw, throwThe,
    MonadExceptOf.throw]
  split <;> rfl

/-- the default handed in is `[^/]+` (rux.go `anyMatch`, `Facts.anyMatchB`), which `globalVarIn` has built in -/
theorem tie_getGlobalVar (gv : List (Bytes × Bytes)) (n : Bytes) :
    Gen.getGlobalVar n [0x5B, 0x5E, 0x2F, 0x5D, 0x2B] gv = globalVarIn gv n := by
  unfold Gen.getGlobalVar globalVarIn GoRt.mapGet
  simp only [Id.run, pure, Bool.beq_eq_decide_eq]
  cases List.find? (fun kv : Bytes × Bytes => decide (kv.1 = n)) gv <;> rfl

theorem tie_goodRegexString (r : Gen.Route) (n v : Bytes) :
    (goodRegexString v = true → Gen.Route.goodRegexString r n v = .ok ()) ∧
    (goodRegexString v = false → ∃ e, Gen.Route.goodRegexString r n v = .error e) := by
  unfold Gen.Route.goodRegexString goodRegexString GoRt.indexByte GoRt.byteAt
  simp only [bind, Except.bind, pure, Except.pure]
  cases hi : Bytes.indexByte v 40 with
  | none => simp
  | some pos =>
    have h1 : ((pos : Int) != -1) = true := rfl
    -- a `(` at `pos < len(v)`: the guard holds, and the index `pos + 1` is a natural number
    simp only [h1, Int.ofNat_lt, Bytes.indexByte_lt v 40 pos hi, decide_true, Bool.and_self, if_true,
      show (pos : Int) + 1 = ((pos + 1 : Nat) : Int) from rfl, Int.toNat_natCast, if_neg (Int.not_lt.mpr (Int.natCast_nonneg _))]
    cases v[pos + 1]? with
    | none => simp
    | some c => by_cases hc : c = 0x3F <;> simp [hc, throw, throwThe, MonadExceptOf.throw]

/-! ### the variable loop of `parseParamRoute` -/

/-- the old/new lists `rawVar` (strips the regexes) and `varRegex` (puts the groups in), as pairs -/
def rawPairs (vars : List VarInfo) : List (Bytes × Bytes) :=
  (vars.filter (·.hasRegex)).map fun v => (v.str, wrapBraces v.name)
def varRePairs (vars : List VarInfo) : List (Bytes × Bytes) :=
  vars.map fun v => if v.hasRegex then (wrapBraces v.name, wrapParens v.regex) else (v.str, wrapParens v.regex)

theorem flat_rawPairs_cons (v : VarInfo) (t : List VarInfo) :
    flat (rawPairs (v :: t)) = flat (rawPairs [v]) ++ flat (rawPairs t) := by
  unfold rawPairs flat
  rw [← List.flatMap_append, ← List.map_append, ← List.filter_append]
  rfl

theorem flat_varRePairs_cons (v : VarInfo) (t : List VarInfo) :
    flat (varRePairs (v :: t)) = flat (varRePairs [v]) ++ flat (varRePairs t) :=
  List.flatMap_append.symm ▸ rfl

/-- the loop state `(route, n, v, rawVar, varRegex)` -/
abbrev PState := Gen.Route × Bytes × Bytes × List Bytes × List Bytes

/-- the loop over the matches of `varRegex` (`pv` reads one), body and `L` as in `var_loop`; `n'`, `v'`: the last variable,
    which nothing reads afterwards -/
theorem pp_loop (pv : Bytes → VarInfo) {body : Bytes → PState → Except Panic (ForInStep PState)} {l : List Bytes}
    (hb : ∀ str ∈ l, ∀ r n v raw vr, body str (r, n, v, raw, vr) =
      (Gen.Route.goodRegexString r (pv str).name (pv str).regex).map fun _ =>
        .yield ({ r with matches_ := r.matches_ ++ [(pv str).name] }, (pv str).name, (pv str).regex,
          raw ++ flat (rawPairs [pv str]), vr ++ flat (varRePairs [pv str])))
    {r : Gen.Route} {n v : Bytes} {raw vr : List Bytes} {L : Except Panic PState}
    (hL : forIn l (r, n, v, raw, vr) body = L) :
    ((l.map pv).any (fun v => !goodRegexString v.regex) = true → ∃ e, L = .error e) ∧
    ((l.map pv).any (fun v => !goodRegexString v.regex) = false →
      ∃ n' v', L = .ok ({ r with matches_ := r.matches_ ++ (l.map pv).map (·.name) }, n', v',
        raw ++ flat (rawPairs (l.map pv)), vr ++ flat (varRePairs (l.map pv)))) := by
  subst hL
  induction l generalizing r n v raw vr with
  | nil => exact ⟨nofun, fun _ => ⟨n, v, by simp [pure, Except.pure, flat, rawPairs, varRePairs]⟩⟩
  | cons a t ih =>
    obtain ⟨hg, hbad⟩ := tie_goodRegexString r (pv a).name (pv a).regex
    rw [List.forIn_cons, hb a (List.mem_cons_self ..), List.map_cons, List.any_cons]
    cases hga : goodRegexString (pv a).regex with
    | true =>
      simp only [hg hga, Except.map, bind, Except.bind, Bool.not_true, Bool.false_or, List.map_cons,
        flat_rawPairs_cons (pv a) (t.map pv), flat_varRePairs_cons (pv a) (t.map pv)]
      have := ih (fun s hs => hb s (List.mem_cons_of_mem _ hs))
        (r := { r with matches_ := r.matches_ ++ [(pv a).name] }) (n := (pv a).name) (v := (pv a).regex)
        (raw := raw ++ flat (rawPairs [pv a])) (vr := vr ++ flat (varRePairs [pv a]))
      simpa only [List.append_assoc, List.singleton_append] using this
    | false =>
      obtain ⟨e, he⟩ := hbad hga
      rw [he]
      exact ⟨fun _ => ⟨e, rfl⟩, nofun⟩

/-! ### the compile step -/

/-- the last three statements of both branches: `regexp.MustCompile("^"+r+"$")`, then `goodRegexGroups` on the route that
    holds the result -/
theorem compile_tail {rt : Gen.Route} {r first : Bytes} (hr : rt.regex = some ([0x5E] ++ r ++ [0x24])) :
    (do let _ ← mustCompileM ([0x5E] ++ r ++ [0x24])
        let _ ← Gen.Route.goodRegexGroups rt numSubexpM
        pure (rt, first) : Except Panic (Gen.Route × Bytes)) =
      if Bytes.validUTF8 r = true ∧ countGroups r 0 = rt.matches_.length then .ok (rt, first) else .error .value := by
  unfold mustCompileM Gen.Route.goodRegexGroups numSubexpM
  simp only [hr, innerText_wrap, bind, Except.bind, pure, Except.pure, bne_iff_ne, ne_eq, Int.natCast_inj]
  cases Bytes.validUTF8 r
  · rfl
  · by_cases hc : countGroups r 0 = rt.matches_.length
    · simp [hc]
    · simp [hc, throw, throwThe, MonadExceptOf.throw]

/-! ### the stages of the model's `compileRouteIn`, by name -/

def path1Of (vars : List VarInfo) (path : Bytes) : Bytes :=
  if (rawPairs vars).isEmpty then path else replaceAll (rawPairs vars) (path.length + 1) path
def spathOf (vars : List VarInfo) (path : Bytes) : Bytes :=
  if (rawPairs vars).isEmpty then [] else path1Of vars path
def minPosOf (p1 : Bytes) : Nat :=
  let argPos := (Bytes.indexByte p1 0x7B).getD 0
  match Bytes.indexByte p1 0x5B with
  | some o => if o > 0 ∧ argPos > o then o else argPos
  | none => argPos
def firstSegOf (start0 : Bytes) : Bytes :=
  if start0.length > 1 then
    match Bytes.indexByte (start0.drop 1) 0x2F with
    | some pos => if pos > 0 then (start0.drop 1).take pos else []
    | none => []
  else []
def startOf (start0 : Bytes) : Bytes :=
  if start0.length > 1 then
    if !(firstSegOf start0).isEmpty ∧ start0.length - (firstSegOf start0).length = 2 then [] else start0
  else []
def path3Of (p1 : Bytes) : Option Bytes :=
  match Bytes.indexByte p1 0x5B with
  | some o => if o > 0 then checkAndParseOptional (Bytes.quoteDots p1) else some (Bytes.quoteDots p1)
  | none => some (Bytes.quoteDots p1)

def varsOf (gv : GVars) (path : Bytes) : List VarInfo := (findVars (path.length + 1) path).map (parseVarIn gv)

/-- the leaves: `rej` rejected, `uns` given up, `fin` the arguments of the compile step `finish` -/
def stages {α : Sort u} (gv : GVars) (path : Bytes) (rej : Reject → α) (uns : α)
    (fin : Bytes → Bytes → Bytes → Bytes → List Bytes → α) : α :=
  if (findVars (path.length + 1) path).isEmpty then
    match checkAndParseOptional (Bytes.quoteDots path) with
    | none => rej .optional
    | some r => fin r [] [] [] []
  else
    let vars := varsOf gv path
    let p1 := path1Of vars path
    let s0 := p1.take (minPosOf p1)
    if vars.any (fun v => !goodRegexString v.regex) then rej .varRegex else
    match Bytes.indexByte p1 0x7B with
    | none => uns
    | some _ =>
      match path3Of p1 with
      | none => rej .optional
      | some p3 =>
        fin (replaceAll (varRePairs vars) (p3.length + 1) p3) (startOf s0) (firstSegOf s0) (spathOf vars path) (vars.map (·.name))

theorem compileRouteIn_eq (gv : GVars) (path : Bytes) :
    compileRouteIn gv path = stages gv path .reject .unsupported finish := by
  rfl

/-- the ties use it with `R c P := c = .ok info → P → goal` (or `c = .reject why → …`), `c` a leaf of the model and `P` what
    `parseParamRoute_stages` says there: the goal is left only where the model's leaf can be the result assumed, with `P` at hand -/
theorem stages_rel {α : Sort u} {β : Sort v} (R : α → β → Prop) {rej uns fin} {rej' uns' fin'}
    (hrej : ∀ w, R (rej w) (rej' w)) (hu : R uns uns')
    (hfin : ∀ r st f sp names, R (fin r st f sp names) (fin' r st f sp names)) (gv : GVars) (path : Bytes) :
    R (stages gv path rej uns fin) (stages gv path rej' uns' fin') := by
  unfold stages
  dsimp only
  split
  · split
    · exact hrej _
    · exact hfin ..
  · split
    · exact hrej _
    · split
      · exact hu
      · split
        · exact hrej _
        · exact hfin ..

theorem finish_inv {r st f sp : Bytes} {names : List Bytes} : ∀ {c : Compiled}, finish r st f sp names = c →
    match c with
    | .ok info => Bytes.validUTF8 r = true ∧ countGroups r 0 = names.length ∧
        info.regexStr = r ∧ info.start = st ∧ info.first = f ∧ info.spath = sp ∧ info.names = names
    | .reject why => why = .compile ∨ why = .groups
    | .unsupported => True := by
  rintro _ rfl
  fun_cases finish r st f sp names
  · exact .inl rfl
  · exact .inr rfl
  · trivial
  · exact .inr rfl
  next hv hc _ _ _ => exact ⟨by simpa using hv, by simpa using hc, rfl, rfl, rfl, rfl, rfl⟩

theorem compile_ok_groups (gv : GVars) (path : Bytes) (info : RouteInfo) (h : compileRouteIn gv path = .ok info) :
    countGroups info.regexStr 0 = info.names.length := by
  rw [compileRouteIn_eq] at h
  -- only one reading of the tree is needed here; the second has `()` at every leaf
  refine stages_rel (fun (c : Compiled) (_ : Unit) => c = .ok info → _) (rej' := fun _ => ()) (uns' := ()) (fin' := fun _ _ _ _ _ => ())
    (fun _ => nofun) nofun (fun r st f sp names hf => ?_) gv path h
  obtain ⟨-, hc, rfl, -, -, -, rfl⟩ := finish_inv hf
  exact hc

theorem minPosOf_le {p1 : Bytes} {a : Nat} (ha : Bytes.indexByte p1 0x7B = some a) : minPosOf p1 ≤ p1.length := by
  have hlt := Nat.le_of_lt (Bytes.indexByte_lt _ _ _ ha)
  unfold minPosOf
  rw [ha]
  simp only [Option.getD_some]
  split
  · split
    next h => exact Nat.le_trans (Nat.le_of_lt h.2) hlt
    · exact hlt
  · exact hlt

theorem replaceAll_head (pairs : List (Bytes × Bytes)) (c : Nat) (t : Bytes) (n : Nat)
    (h : ∀ p ∈ pairs, p.1.head? ≠ some c) : (replaceAll pairs (n + 1) (c :: t)).head? = some c := by
  have : firstPair pairs (c :: t) = none :=
    List.find?_eq_none.mpr fun p hp => by
      have := h p hp
      obtain ⟨_ | ⟨a, r⟩, _⟩ := p
      · simp
      · simp [Bytes.hasPrefix, show ¬ c = a from fun e => this (e ▸ rfl)]
  simp [replaceAll, this]

theorem parseVarIn_str (gv : GVars) (str : Bytes) : (parseVarIn gv str).str = str := by
  fun_cases parseVarIn gv str <;> rfl

/-- the leading `/` survives (every old string begins with `{`), so `quotePointChar` meets no dot at position 0 -/
theorem path1Of_head (gv : GVars) (path : Bytes) (hhead : path.head? = some 0x2F) :
    (path1Of (varsOf gv path) path).head? = some 0x2F := by
  unfold path1Of
  split
  · exact hhead
  · cases path with
    | nil => cases hhead
    | cons c t =>
      simp only [List.head?_cons, Option.some.injEq] at hhead
      subst hhead
      apply replaceAll_head
      intro p hp
      simp only [rawPairs, varsOf, List.mem_map, List.mem_filter] at hp
      obtain ⟨_, ⟨⟨str, hstr, rfl⟩, _⟩, rfl⟩ := hp
      obtain ⟨_, _, _, rfl⟩ := findVars_mem hstr
      rw [parseVarIn_str]
      nofun

/-! ### the blocks, in terms of the stages -/

section blocks
-- every hoisted block takes the parameters and the locals of the function
variable (route : Gen.Route) (fa : Bytes → List Bytes) (rep : List Bytes → Bytes → Bytes) (gv : GVars)
  (mc : Bytes → Except Panic Unit) (ns : Option Bytes → Int) (first_ path : Bytes) (ss : List Bytes)
  (n v : Bytes) (rawVar varRegex : List Bytes)

/-- block 6 (the `if strings.IndexByte(nvStr, ':') > 0 {…} else {…}` of the loop) -/
theorem ppBlk6_eq (str : Bytes) :
    Gen.Router.parseParamRoute.blk6 route fa rep gv mc ns first_ path ss n v rawVar varRegex str
        ((str.drop 1).dropLast) =
      .ok ((parseVarIn gv str).name, (parseVarIn gv str).regex, rawVar ++ flat (rawPairs [parseVarIn gv str]),
           varRegex ++ flat (varRePairs [parseVarIn gv str])) := by
  unfold Gen.Router.parseParamRoute.blk6 parseVarIn rawPairs varRePairs flat GoRt.indexByte splitN2
  simp only [bind, Except.bind, pure, Except.pure, tie_getGlobalVar]
  generalize (str.drop 1).dropLast = nv
  cases Bytes.indexByte nv 58 with
  | none => simp [wrapParens]
  | some pos => by_cases hp : 0 < pos <;> simp [hp, elemAt, wrapBraces, wrapParens]

/-- block 13 (`if len(rawVar) > 0 {…}`) -/
theorem ppBlk13_eq (vars : List VarInfo) :
    Gen.Router.parseParamRoute.blk13 route fa replacerM gv mc ns first_ path ss n v (flat (rawPairs vars)) varRegex =
      ({ route with spath := if (rawPairs vars).isEmpty then route.spath else path1Of vars path }, path1Of vars path) := by
  unfold Gen.Router.parseParamRoute.blk13 path1Of
  simp only [Id.run, pure, replacerM_flat]
  cases rawPairs vars with
  | nil => rfl
  | cons a t =>
    have hl : decide (((flat (a :: t)).length : Int) > 0) = true := len_pos_cons a.1 (a.2 :: flat t)
    simp only [hl, if_true, List.isEmpty_cons, Bool.false_eq_true, if_false]

/-- block 14 (`if optPos > 0 && argPos > optPos {…}`) -/
theorem ppBlk14_eq (p1 : Bytes) (a : Nat) (ha : Bytes.indexByte p1 0x7B = some a) :
    Gen.Router.parseParamRoute.blk14 route fa rep gv mc ns first_ path ss n v rawVar varRegex
        (GoRt.indexByte p1 123) (GoRt.indexByte p1 91) (GoRt.indexByte p1 123) = ((minPosOf p1 : Nat) : Int) := by
  unfold Gen.Router.parseParamRoute.blk14 minPosOf GoRt.indexByte
  simp only [Id.run, pure, ha, Option.getD_some]
  cases Bytes.indexByte p1 91 with
  | none => simp
  | some o =>
    simp only [Int.natCast_pos, Int.ofNat_lt, Bool.and_eq_true, decide_eq_true_eq]
    split <;> rfl

/-- block 16 (`if len(start) > 1 {…}`), at `first_ := []`, its value on entry: finding no first segment the block leaves
    `first_` alone, where the model says `[]` -/
theorem ppBlk16_eq (argPos optPos minPos : Int) (start : Bytes) :
    Gen.Router.parseParamRoute.blk16 route fa rep gv mc ns [] path ss n v rawVar varRegex argPos optPos minPos start =
      .ok ({ route with start := if 1 < start.length then
          if !(firstSegOf start).isEmpty ∧ start.length - (firstSegOf start).length = 2 then [] else start
        else route.start }, firstSegOf start) := by
  unfold Gen.Router.parseParamRoute.blk16 Gen.Router.parseParamRoute.blk19 firstSegOf GoRt.indexByte
  simp only [bind, Except.bind, pure, Except.pure, Id.run, gt_iff_lt, decide_eq_true_eq,
    show (1 : Int) < (start.length : Int) ↔ 1 < start.length from Int.ofNat_lt]
  by_cases hl : 1 < start.length
  · simp only [if_pos hl, slice_from1 start (Nat.le_of_lt hl)]
    cases hi : Bytes.indexByte (start.drop 1) 47 with
    | none => simp
    | some pos =>
      have hlt : pos + 1 < start.length := Nat.add_lt_of_lt_sub (List.length_drop ▸ Bytes.indexByte_lt _ _ _ hi)
      simp only [Int.natCast_pos]
      by_cases hp : 0 < pos
      · have hlen : ((start.drop 1).take pos).length = pos := by
          rw [List.length_take, List.length_drop]
          exact Nat.min_eq_left (Nat.le_sub_one_of_lt (Nat.lt_of_succ_lt hlt))
        -- the model tests `first ≠ ""` where the code is inside `if pos > 0`
        have hne : ((start.drop 1).take pos).isEmpty = false := by
          rw [List.isEmpty_eq_false_iff, ← List.length_pos_iff, hlen]
          exact hp
        simp only [if_pos hp, slice_1_to start pos (Nat.le_of_lt hlt), hlen, hne, Bool.not_false, true_and, beq_iff_eq,
          ← Int.natCast_sub (Nat.le_of_lt (Nat.lt_of_succ_lt hlt)), show (2 : Int) = ((2 : Nat) : Int) from rfl, Int.natCast_inj]
        by_cases h2 : start.length - pos = 2
        · rw [if_pos h2, if_pos h2]
        · rw [if_neg h2, if_neg h2]
      · simp [if_neg hp]
  · rw [if_neg hl, if_neg hl, if_neg hl]

/-- block 21 (`if optPos > 0 {…}`) -/
theorem ppBlk21_eq (argPos optPos minPos : Int) (start : Bytes) :
    Gen.Router.parseParamRoute.blk21 route fa rep gv mc ns first_ path ss n v rawVar varRegex argPos optPos minPos start =
      if optPos > 0 then Gen.checkAndParseOptional path rep else .ok path := by
  unfold Gen.Router.parseParamRoute.blk21
  simp only [bind, pure, Except.pure]
  by_cases h1 : optPos > 0
  · simp only [h1, decide_true, if_true]
    cases Gen.checkAndParseOptional path rep <;> rfl
  · simp [h1]

end blocks

theorem path3Of_eq (p1 : Bytes) (hhead : p1.head? = some 0x2F) :
    ∃ e, (if GoRt.indexByte p1 91 > 0 then Gen.checkAndParseOptional (Gen.quotePointChar p1) replacerM
        else .ok (Gen.quotePointChar p1)) =
      match path3Of p1 with
      | some p3 => .ok p3
      | none => .error e := by
  unfold path3Of GoRt.indexByte
  rw [quotePointChar_eq p1 (by rw [hhead]; simp), tie_checkAndParseOptional]
  cases Bytes.indexByte p1 91 with
  | none => exact ⟨.value, rfl⟩
  | some o =>
    simp only [Int.natCast_pos]
    split
    · cases checkAndParseOptional (Bytes.quoteDots p1) with
      | none => exact ⟨_, rfl⟩
      | some r => exact ⟨.value, rfl⟩
    · exact ⟨.value, rfl⟩

/-! ### `parseParamRoute` follows the stages of `compileRouteIn` -/

/-- a route as `AddRoute` hands it to `parseParamRoute`: nothing recorded yet -/
structure FreshRoute (route : Gen.Route) : Prop where
  matches_ : route.matches_ = []
  start : route.start = []
  spath : route.spath = []
  head : route.path.head? = some 0x2F

/-- the result is named `G` so that it is unfolded once, in `hG`, and not in every leaf.  The `∨` at `rej`: a refused variable
    regex panics on any route, misplaced optional brackets on a formatted path -/
theorem parseParamRoute_stages (route : Gen.Route) (gv : GVars) {G : Except Panic (Gen.Route × Bytes)}
    (hG : Gen.Router.parseParamRoute route findAllM replacerM gv mustCompileM numSubexpM = G) :
    stages gv route.path
      (fun why => why = .varRegex ∨ route.path.head? = some 0x2F → ∃ e, G = .error e)
      True
      (fun r st f sp names =>
        FreshRoute route →
        G = if Bytes.validUTF8 r = true ∧ countGroups r 0 = names.length then
            .ok ({ route with matches_ := names, start := st, spath := sp, regex := some ([0x5E] ++ r ++ [0x24]) }, f)
          else .error .value) := by
  unfold Gen.Router.parseParamRoute at hG
  unfold stages
  dsimp only
  -- both tails at once, while they stand as written
  simp only [compile_tail] at hG
  cases hss : findVars (route.path.length + 1) route.path with
  | nil =>
    rw [if_pos (by rw [show findAllM route.path = [] from hss]; rfl), tie_checkAndParseOptional] at hG
    rw [if_pos List.isEmpty_nil]
    split
    next hopt =>
      intro h      -- `.optional` is not `.varRegex`: `h` gives the head of the path
      rw [quotePointChar_eq _ (by rw [h.resolve_left nofun]; simp), hopt] at hG
      exact ⟨_, hG.symm⟩
    next r hopt =>
      intro hf
      rw [quotePointChar_eq _ (by rw [hf.head]; simp), hopt, hf.matches_, hf.start, hf.spath] at hG
      exact hG.symm
  | cons s t =>
    rw [if_neg (by simp)]
    have hlen : ¬ (((findAllM route.path).length : Int) == 0) = true := by
      rw [show findAllM route.path = s :: t from hss]; exact Bool.false_ne_true
    rw [if_neg hlen] at hG
    generalize hL : forIn (m := Except Panic) (findAllM route.path) ((route, [], [], [], []) : PState) _ = L at hG
    obtain ⟨herr, hok⟩ := pp_loop (parseVarIn gv) (fun str hs r n v raw vr => by
      simp only [slice_inner str (findVars_len _ _ _ hs), ppBlk6_eq, bind, Except.bind]
      rfl) hL
    rw [show (findAllM route.path).map (parseVarIn gv) = varsOf gv route.path from rfl] at hok herr
    cases hgood : (varsOf gv route.path).any (fun v => !goodRegexString v.regex) with
    | true =>
      intro _
      obtain ⟨e, rfl⟩ := herr hgood
      exact ⟨e, hG.symm⟩
    | false =>
      rw [if_neg nofun]
      split
      · trivial
      next a ha =>
        obtain ⟨n, v, rfl⟩ := hok hgood
        simp only [bind, Except.bind, List.nil_append, ppBlk13_eq, ppBlk14_eq (ha := ha), slice_to (minPosOf_le ha),
          ppBlk16_eq, ppBlk21_eq, replacerM_flat] at hG
        split
        next hopt =>
          intro h
          obtain ⟨e, h3⟩ := path3Of_eq _ (path1Of_head gv route.path (h.resolve_left nofun))
          rw [h3, hopt] at hG
          exact ⟨e, hG.symm⟩
        next p3 hopt =>
          intro hf
          obtain ⟨e, h3⟩ := path3Of_eq _ (path1Of_head gv route.path hf.head)
          rw [h3, hopt, hf.matches_, hf.start, hf.spath] at hG
          exact hG.symm

/-! ### accepted and refused paths -/

/-- **`parseParamRoute` as generated = the model's `compileRouteIn`** on a fresh route with a formatted path: where the model
    compiles, no panic, and the route returned carries the model's variable names, literal prefix, simple path and regexp
    source text (`^` + text + `$`), with the model's first-segment key. -/
theorem tie_parseParamRoute (route : Gen.Route) (gv : GVars) (info : RouteInfo)
    (hm : route.matches_ = []) (hst : route.start = []) (hsp : route.spath = [])
    (hhead : route.path.head? = some 0x2F)
    (h : compileRouteIn gv route.path = .ok info) :
    Gen.Router.parseParamRoute route findAllM replacerM gv mustCompileM numSubexpM =
      .ok ({ route with matches_ := info.names, start := info.start, spath := info.spath,
                        regex := some ([0x5E] ++ info.regexStr ++ [0x24]) }, info.first) := by
  rw [compileRouteIn_eq] at h
  refine stages_rel (fun (c : Compiled) (P : Prop) => c = .ok info → P → _) (fun _ => nofun) nofun (fun r st f sp names hf hP => ?_)
    gv route.path h (parseParamRoute_stages route gv rfl)
  obtain ⟨hv, hc, rfl, rfl, rfl, rfl, rfl⟩ := finish_inv hf
  exact (hP ⟨hm, hst, hsp, hhead⟩).trans (if_pos ⟨hv, hc⟩)

/-- the remaining rejections of a path WITH variables whose variable regexes are accepted: misplaced optional brackets,
    regexp text that is not valid UTF-8 (MustCompile), a group count that differs from the number of variables
    (goodRegexGroups) — in each case the generated function panics -/
theorem tie_parseParamRoute_vars_rejects (route : Gen.Route) (gv : GVars)
    (hm : route.matches_ = []) (hst : route.start = []) (hsp : route.spath = [])
    (hhead : route.path.head? = some 0x2F)
    (hne : (findVars (route.path.length + 1) route.path).isEmpty = false)
    (hbad0 : ((varsOf gv route.path).any fun v => !goodRegexString v.regex) = false)
    (a : Nat)
    (ha0 : Bytes.indexByte (path1Of (varsOf gv route.path) route.path) 0x7B = some a) :
    (path3Of (path1Of (varsOf gv route.path) route.path) = none →
      ∃ e, Gen.Router.parseParamRoute route findAllM replacerM gv mustCompileM numSubexpM = .error e) ∧
    (∀ p3, path3Of (path1Of (varsOf gv route.path) route.path) = some p3 →
      (Bytes.validUTF8 (replaceAll (varRePairs (varsOf gv route.path)) (p3.length + 1) p3) = false ∨
       countGroups (replaceAll (varRePairs (varsOf gv route.path)) (p3.length + 1) p3) 0 ≠ (varsOf gv route.path).length) →
      ∃ e, Gen.Router.parseParamRoute route findAllM replacerM gv mustCompileM numSubexpM = .error e) := by
  have hB := parseParamRoute_stages route gv rfl
  -- the hypotheses name the way through the tree and the statement the arguments of its leaf, which `stages_rel` forgets:
  -- unfolded, the tree keeps its last `match`, on `path3Of`
  unfold stages at hB
  simp only [hne, hbad0, ha0, Bool.false_eq_true, if_false] at hB
  constructor
  · intro h3
    rw [h3] at hB
    exact hB (.inr hhead)
  · intro p3 h3 hrej
    rw [h3] at hB
    refine ⟨_, (hB ⟨hm, hst, hsp, hhead⟩).trans (if_neg ?_)⟩
    rw [List.length_map]
    rintro ⟨hv, hc⟩
    rcases hrej with h | h
    · rw [hv] at h; cases h
    · exact h hc

/-- a variable regex that `goodRegexString` refuses (a capturing group): the generated function panics — registration
    refuses the route -/
theorem tie_parseParamRoute_reject_varRegex (route : Gen.Route) (gv : GVars)
    (h : compileRouteIn gv route.path = .reject .varRegex) :
    ∃ e, Gen.Router.parseParamRoute route findAllM replacerM gv mustCompileM numSubexpM = .error e := by
  rw [compileRouteIn_eq] at h
  refine stages_rel (fun (c : Compiled) (P : Prop) => c = .reject .varRegex → P → _) (fun w hw hP => hP (.inl (by cases hw; rfl))) nofun
    (fun r st f sp names hf _ => ?_) gv route.path h (parseParamRoute_stages route gv rfl)
  -- the compile step rejects for other reasons only
  rcases finish_inv hf with hw | hw <;> cases hw

/-- optional brackets that are not all at the end of a path without variables: the generated function panics -/
theorem tie_parseParamRoute_reject_optional_novars (route : Gen.Route) (gv : GVars)
    (hhead : route.path.head? = some 0x2F)
    (_ : findVars (route.path.length + 1) route.path = [])
    (h : compileRouteIn gv route.path = .reject .optional) :
    ∃ e, Gen.Router.parseParamRoute route findAllM replacerM gv mustCompileM numSubexpM = .error e := by
  rw [compileRouteIn_eq] at h
  refine stages_rel (fun (c : Compiled) (P : Prop) => c = .reject .optional → P → _) (fun w _ hP => hP (.inr hhead)) nofun
    (fun r st f sp names hf _ => ?_) gv route.path h (parseParamRoute_stages route gv rfl)
  rcases finish_inv hf with hw | hw <;> cases hw

end Tie
end Rux
