import RuxModel.Generated.Code
import RuxModel.Model.Table
import RuxModel.Tie.Path
import RuxModel.Props.C11Tie
import RuxModel.Lemmas.Transparent
import RuxModel.Lemmas.Rt
/-
  Tie: the definition generated from parse_match.go `Router.QuickMatch` — the decision list
  direct match / HEAD→GET / fallback route / method-not-allowed / not found over abstract lookups — is the
  hand-written `quickMatch` of Model/Table.lean, when the abstract lookups are the model's `matchM`, `findAllowed`
  and static table (`tie_QuickMatch`), and more generally for every environment that agrees with those on the states
  a lookup can reach, `findAllowed` up to the order of its answer (`tie_QuickMatch_env`, for Tie/Pipeline.lean).
-/
namespace Rux
namespace Tie

/-- the model's lookups as the environment of the generated `QuickMatch`: state = the model router (its cache
    changes), routes carry the served-from-cache flag -/
def envM : GoRt.QMEnv RouterM (RouteM × Bool) Params where
  match_ s m p :=
    match matchM s m p with
    | (some (r, ps, c), s') => ((some (r, c), some ps), s')
    | (none, s') => ((none, none), s')
  findAllowed s m p := findAllowed s m p
  stable s k := (alistGet s.stable k).map fun r => (r, false)

/-- the model's result in the shape of Go's `(route, ps, alm)` -/
def absRes : MatchResult → Option (RouteM × Bool) × Option Params × List Bytes
  | .route r ps c => (some (r, c), some ps, [])
  | .fallback r => (some (r, false), none, [])
  | .allowed ms => (none, none, ms)
  | .notFound => (none, none, [])

/-- `absRes` when Go's map iteration visits the allowed methods in the order `ord` -/
def absResO (ord : List Bytes → List Bytes) : MatchResult → Option (RouteM × Bool) × Option Params × List Bytes
  | .allowed ms => (none, none, ord ms)
  | r => absRes r

theorem absResO_id (r : MatchResult) : absResO id r = absRes r := by cases r <;> rfl

/-- the four option fields `QuickMatch` reads agree with the model's -/
structure OptsRel (g : Gen.Router) (o : Opts) : Prop where
  strict : g.strictLastSlash = o.strict
  intercept : g.interceptAll = o.intercept
  fallback : g.handleFallbackRoute = o.fallback
  notAllowed : g.handleMethodNotAllowed = o.notAllowed

theorem envM_match (s : RouterM) (m q : Bytes) :
    envM.match_ s m q =
      (((matchM s m q).1.map fun x => (x.1, x.2.2), (matchM s m q).1.map (·.2.1)), (matchM s m q).2) := by
  simp only [envM]
  rcases matchM s m q with ⟨_ | ⟨r, ps, c⟩, s'⟩ <;> rfl

/-- `hfa` has the right-hand side of `tie_findAllowed_env` (Tie/Allowed.lean): Go returns `nil` for an empty set without
    visiting it, and nothing forces `ord [] = []` -/
theorem tie_QuickMatch_env (env : GoRt.QMEnv RouterM (RouteM × Bool) Params) (ord : List Bytes → List Bytes)
    (g : Gen.Router) (rt : RouterM) (h : OptsRel g rt.opts) (m p : Bytes) (hst : env.stable = envM.stable)
    (hmt : ∀ s m' p', s.opts = rt.opts →
      env.match_ s m' (fmtPath rt.opts.strict p') = envM.match_ s m' (fmtPath rt.opts.strict p'))
    (hfa : ∀ s p', s.opts = rt.opts → env.findAllowed s m (fmtPath rt.opts.strict p') =
      (if decide (((findAllowed s m (fmtPath rt.opts.strict p')).1.length : Int) > 0)
        then ord (findAllowed s m (fmtPath rt.opts.strict p')).1 else [], (findAllowed s m (fmtPath rt.opts.strict p')).2)) :
    Gen.Router.QuickMatch g m p env rt =
      .ok ((quickMatch rt m p).2, absResO ord (quickMatch rt m p).1) := by
  obtain ⟨hs, hi, hf, hn⟩ := h
  have hq : (if (rt.opts.intercept != []) = true then rt.opts.intercept else p) =
      (if rt.opts.intercept.isEmpty = true then p else rt.opts.intercept) := by
    cases rt.opts.intercept <;> rfl
  unfold Gen.Router.QuickMatch quickMatch
  simp only [Id.run, tie_formatPath, C11_table_normaliser, hs, hi, hf, hn, hq, bind, Except.bind, pure, ite_self]
  generalize (if rt.opts.intercept.isEmpty = true then p else rt.opts.intercept) = p'
  -- the part after the direct match and the HEAD→GET attempt failed, entered from two places in a state `rt'`; its
  -- text `_` is taken from the goal
  suffices tail : ∀ rt' : RouterM, rt'.opts = rt.opts → _ = Except.ok
      ((tailMatch rt' m (fmtPath rt.opts.strict p')).2, absResO ord (tailMatch rt' m (fmtPath rt.opts.strict p')).1) by
    have look := fun s m' (ho : s.opts = rt.opts) => (hmt s m' p' ho).trans (envM_match s m' _)
    rw [look rt m rfl]
    have ho1 := (matchM_tables rt m (fmtPath rt.opts.strict p')).opts
    generalize matchM rt m (fmtPath rt.opts.strict p') = x at ho1 ⊢
    obtain ⟨_ | ⟨r, ps, c⟩, rt1⟩ := x
    · simp only [Option.map_none, Option.isSome_none, Bool.false_eq_true, if_false]
      unfold headMatch
      rw [← methodHEAD, ← methodGET]
      simp only [beq_iff_eq]
      by_cases hh : m = methodHEAD
      · rw [if_pos hh, if_pos hh, look rt1 _ ho1]
        have ho2 := (matchM_tables rt1 methodGET (fmtPath rt.opts.strict p')).opts
        generalize matchM rt1 methodGET (fmtPath rt.opts.strict p') = y at ho2 ⊢
        obtain ⟨_ | ⟨r, ps, c⟩, rt2⟩ := y
        · simp only [Option.map_none, Option.isSome_none, Bool.false_eq_true, if_false]
          exact tail rt2 (ho2.trans ho1)
        · rfl
      · rw [if_neg hh, if_neg hh]
        exact tail rt1 ho1
    · rfl
  intro rt' ho
  unfold tailMatch
  rw [ho, hfa rt' p' ho, hst]
  simp only [envM, slashStar]
  generalize findAllowed rt' m _ = fa
  generalize alistGet rt'.stable _ = st
  -- Go asks what `tailMatch` asks, in its order: (1) fallback routes on and `m/*` registered? (2) method-not-allowed
  -- on? (3) `len(alm) > 0`, the model's "not empty"?
  match rt.opts.fallback, st with
  | true, some r => rfl                        -- (1) yes
  | true, none | false, _ =>                   -- (1) no, either way
    match rt.opts.notAllowed, fa with
    | false, _ => rfl                          -- (2) no
    | true, ([], _) => rfl                     -- (3) no
    | true, (a :: t, _) => simp only [GoRt.len_pos_cons]; rfl

theorem tie_QuickMatch (g : Gen.Router) (rt : RouterM) (h : OptsRel g rt.opts) (m p : Bytes) :
    Gen.Router.QuickMatch g m p envM rt =
      .ok ((quickMatch rt m p).2, absRes (quickMatch rt m p).1) := by
  rw [← absResO_id]
  refine tie_QuickMatch_env envM id g rt h m p rfl (fun _ _ _ _ => rfl) (fun s p' _ => ?_)
  show findAllowed s m _ = _
  rcases findAllowed s m (fmtPath rt.opts.strict p') with ⟨_ | ⟨a, t⟩, s'⟩ <;> simp

end Tie
end Rux
