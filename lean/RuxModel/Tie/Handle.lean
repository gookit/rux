import RuxModel.Generated.Code
/-
  The definition generated from dispatch.go `Router.handleHTTPRequest`, brought into a readable closed form
  (`handleSpec`) for ANY environment: whatever `QuickMatch`, the handlers behind `Next()` and the two hooks do.
  The deferred recover of the Go source (`if r.OnPanic != nil { defer func() { if ret := recover(); ret != nil
  {…} }() }`) appears as: run the body; when it ended with a panic and the hook is set, store the value, run the
  hook, commit.
-/
namespace Rux
namespace Tie
open GoRt

variable {σ ρ η γ : Type}

/-! The context keys as go/types folds the constants of context.go: `_currentRouteName`, `_currentRoutePath`,
    `_allowedMethods`, `_recoverResult` (compared with `Facts.ctxKeys` by the `#guard`s of Props/C09Gen.lean). -/

def keyRouteName : Bytes := [0x5F, 0x63, 0x75, 0x72, 0x72, 0x65, 0x6E, 0x74, 0x52, 0x6F, 0x75, 0x74, 0x65, 0x4E, 0x61, 0x6D, 0x65]
def keyRoutePath : Bytes := [0x5F, 0x63, 0x75, 0x72, 0x72, 0x65, 0x6E, 0x74, 0x52, 0x6F, 0x75, 0x74, 0x65, 0x50, 0x61, 0x74, 0x68]
def keyAllowed : Bytes := [0x5F, 0x61, 0x6C, 0x6C, 0x6F, 0x77, 0x65, 0x64, 0x4D, 0x65, 0x74, 0x68, 0x6F, 0x64, 0x73]
def keyRecover : Bytes := [0x5F, 0x72, 0x65, 0x63, 0x6F, 0x76, 0x65, 0x72, 0x52, 0x65, 0x73, 0x75, 0x6C, 0x74]

def orDefault (hs dflt : List η) : List η := if ((hs.length : Int) == 0) then dflt else hs

/-- what the `if route != nil {…} else if len(allowed) > 0 {…} else {…}` statement computes: the context with the
    prelude values, the main handler, the handlers in front of it.  It has the shape of the generated block (`blk6_eq`);
    the properties read it through `preludeCtx` and `chainFor` -/
def choose (env : HEnv σ ρ η (Gen.Ctx γ)) (s : σ) (ctx : Gen.Ctx γ) (path : Bytes) (route : Option ρ)
    (params : Option KV) (allowed : List Bytes) : Gen.Ctx γ × Option η × List η :=
  if route.isSome then
    ({ ctx with params := params, data := dataSet (dataSet ctx.data keyRouteName (.str (env.routeName route))) keyRoutePath (.str path) },
      env.routeHandler route, env.routeHandlers route)
  else if decide ((allowed.length : Int) > 0) then
    ({ ctx with data := dataSet ctx.data keyAllowed (.strs allowed) }, none, orDefault (env.noAllowed s) env.default405)
  else (ctx, none, orDefault (env.noRoute s) env.default404)

/-! the tuple-valued `if`s that the translator emits as definitions of their own (9 is nested in 6; 11 and 12, nested in 9, are `orDefault` by `rfl`) -/
section blocks
variable (r : Gen.Router) (ctx : Gen.Ctx γ) (env : HEnv σ ρ η (Gen.Ctx γ)) (s0 s : σ) (hc : List η) (path : Bytes)
  (route : Option ρ) (params : Option KV) (allowed : List Bytes) (mh : Option η) (hs chain : List η)

theorem blk1_eq : Gen.Router.handleHTTPRequest.blk1 r ctx env s0 s hc path
    = if r.useEncodedPath then env.escapedPath ctx.req else path := rfl

theorem blk13_eq : Gen.Router.handleHTTPRequest.blk13 r ctx env s0 s hc path route params allowed mh hs chain
    = chain ++ mh.toList := by
  cases mh
  · exact (List.append_nil chain).symm
  · rfl

/-- `var mainHandler HandlerFunc`: the block starts from the zero value -/
theorem blk6_eq : Gen.Router.handleHTTPRequest.blk6 r ctx env s0 s hc path route params allowed default hs
    = choose env s ctx path route params allowed := by
  unfold Gen.Router.handleHTTPRequest.blk6 choose
  cases route with
  | some _ => rfl
  | none =>
    unfold Gen.Router.handleHTTPRequest.blk9
    cases decide ((allowed.length : Int) > 0) <;> rfl

end blocks

def commit (c : Gen.Ctx γ) : Gen.Ctx γ := c.set_writer (Gen.RW.ensureWriteHeader c.writer)

/-- what follows the chain run `n` in the body -/
def afterChain (env : HEnv σ ρ η (Gen.Ctx γ)) (n : σ × Gen.Ctx γ × Option Panic) : σ × Gen.Ctx γ × Option Panic :=
  match n.2.2 with
  | some p => (n.1, n.2.1, some p)
  | none =>
    if ((env.onErrorH n.1).isSome && decide ((n.2.1.errors.length : Int) > 0)) = true then
      let e := env.onError n.1 n.2.1
      match e.2.2 with
      | some p => (e.1, e.2.1, some p)
      | none => (e.1, commit e.2.1, none)
    else (n.1, commit n.2.1, none)

def reqPath (env : HEnv σ ρ η (Gen.Ctx γ)) (g : Gen.Router) (ctx : Gen.Ctx γ) : Bytes :=
  if g.useEncodedPath then env.escapedPath ctx.req else env.urlPath ctx.req

def matchOf (env : HEnv σ ρ η (Gen.Ctx γ)) (g : Gen.Router) (ctx : Gen.Ctx γ) (s : σ) :=
  env.quickMatch s (env.method ctx.req) (reqPath env g ctx)

/-- the part of `handleHTTPRequest` below the `defer`; its `path` and `q` are `reqPath` and `matchOf` -/
def bodySpec (env : HEnv σ ρ η (Gen.Ctx γ)) (g : Gen.Router) (ctx : Gen.Ctx γ) (s : σ) : σ × Gen.Ctx γ × Option Panic :=
  let path := if g.useEncodedPath then env.escapedPath ctx.req else env.urlPath ctx.req
  let q := env.quickMatch s (env.method ctx.req) path
  match q.2.2.2.2 with
  | some p => (q.1, ctx, some p)
  | none =>
    let ch := choose env q.1 ctx path q.2.1 q.2.2.1 q.2.2.2.1
    let chain := env.globalHandlers q.1 ++ ch.2.2 ++ ch.2.1.toList
    afterChain env (env.next q.1 (ch.1.set_handlers (chain.map (fun _ => ()))) chain)

def handleSpec (env : HEnv σ ρ η (Gen.Ctx γ)) (g : Gen.Router) (ctx : Gen.Ctx γ) (s : σ) : σ × Gen.Ctx γ × Option Panic :=
  let b := bodySpec env g ctx s
  if (env.onPanicH s).isSome = true then
    match b.2.2 with
    | some ret =>
      let h := env.onPanic b.1 (b.2.1.set_data (dataSet b.2.1.data keyRecover (.pv ret)))
      match h.2.2 with
      | some p => (h.1, h.2.1, some p)
      | none => (h.1, commit h.2.1, none)
    | none => b
  else b

/-- Proof: the `let` of the result type is the body below the `defer`; in each half the environment's calls are
    named as the closed form makes them, after which the two sides differ only in how a `match` on a panic is compiled. -/
theorem gen_handle_eq_spec (env : HEnv σ ρ η (Gen.Ctx γ)) (g : Gen.Router) (ctx : Gen.Ctx γ) (s : σ) :
    Gen.Router.handleHTTPRequest g ctx env s = handleSpec env g ctx s := by
  unfold Gen.Router.handleHTTPRequest
  extract_lets
  rename σ × Gen.Ctx γ × Option Panic => b
  have hb : b = bodySpec env g ctx s := by
    simp only [bodySpec]
    generalize hq : env.quickMatch s _ _ = q
    obtain ⟨s1, route, params, allowed, pn⟩ := q
    cases pn with
    | some p => simp +zetaDelta only [blk1_eq, hq, Id.run, pure]
    | none =>
      dsimp only
      generalize hch : choose env s1 ctx _ route params allowed = ch
      obtain ⟨c1, mh, hs⟩ := ch
      dsimp only
      generalize hn : env.next s1 _ _ = n
      obtain ⟨s2, c2, pn2⟩ := n
      simp +zetaDelta only [blk1_eq, blk6_eq, blk13_eq, hq, hch, hn, List.nil_append, Id.run, pure]
      cases pn2 with
      | some p => rfl
      | none =>
        simp only [afterChain]
        cases (env.onErrorH s2).isSome && decide ((c2.errors.length : Int) > 0)
        · rfl
        · rcases env.onError s2 c2 with ⟨s3, c3, _ | p⟩ <;> rfl
  rw [handleSpec, ← hb]
  obtain ⟨s1, c1, pb⟩ := b
  cases pb with
  | none => simp +zetaDelta only [Id.run, pure]
  | some v =>
    simp +zetaDelta only [keyRecover, ToDV.toDV, Id.run, pure]
    cases (env.onPanicH s).isSome
    · rfl
    · generalize env.onPanic s1 _ = h
      obtain ⟨s2, c2, ph⟩ := h
      cases ph <;> rfl

/-! ### the closed form, read by kind of match result -/

/-- the handler chain of a request -/
def chainFor (env : HEnv σ ρ η (Gen.Ctx γ)) (s : σ) (route : Option ρ) (allowed : List Bytes) : List η :=
  env.globalHandlers s ++
    (if route.isSome then env.routeHandlers route ++ (env.routeHandler route).toList
     else if decide ((allowed.length : Int) > 0) then orDefault (env.noAllowed s) env.default405
     else orDefault (env.noRoute s) env.default404)

/-- what `handleHTTPRequest` stores in the context before the chain runs -/
def preludeCtx (env : HEnv σ ρ η (Gen.Ctx γ)) (ctx : Gen.Ctx γ) (path : Bytes) (route : Option ρ)
    (params : Option KV) (allowed : List Bytes) : Gen.Ctx γ :=
  if route.isSome then
    { ctx with params := params, data := dataSet (dataSet ctx.data keyRouteName (.str (env.routeName route))) keyRoutePath (.str path) }
  else if decide ((allowed.length : Int) > 0) then { ctx with data := dataSet ctx.data keyAllowed (.strs allowed) }
  else ctx

section
variable (env : HEnv σ ρ η (Gen.Ctx γ)) (s : σ) (ctx : Gen.Ctx γ) (path : Bytes) (route : Option ρ) (params : Option KV)
  (allowed : List Bytes)

theorem preludeCtx_index_ghost :
    (preludeCtx env ctx path route params allowed).index = ctx.index ∧
      (preludeCtx env ctx path route params allowed).ghost = ctx.ghost := by
  unfold preludeCtx
  cases route with
  | some _ => exact ⟨rfl, rfl⟩
  | none => cases decide ((allowed.length : Int) > 0) <;> exact ⟨rfl, rfl⟩

theorem choose_ctx : (choose env s ctx path route params allowed).1 = preludeCtx env ctx path route params allowed := by
  unfold choose preludeCtx
  cases route with
  | some _ => rfl
  | none => cases decide ((allowed.length : Int) > 0) <;> rfl

theorem choose_chain :
    env.globalHandlers s ++ (choose env s ctx path route params allowed).2.2
        ++ (choose env s ctx path route params allowed).2.1.toList = chainFor env s route allowed := by
  unfold choose chainFor
  cases route with
  | some _ => exact List.append_assoc ..
  | none => cases decide ((allowed.length : Int) > 0) <;> exact List.append_nil _

end

end Tie
end Rux
