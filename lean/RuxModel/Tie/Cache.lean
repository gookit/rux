import RuxModel.Generated.Code
import RuxModel.Model.Cache
import RuxModel.Lemmas.List
/-
  Tie (refinement): the definitions generated from route_cache.go — `cachedRoutes.Len/Set/Get/Delete/Has`
  over a `container/list` with element identity (`GoRt.LList`) and a `map[string]*list.Element` (`GoRt.HMap`) —
  refine the recency-ordered association list `Rux.Cache` of Model/Cache.lean (the model of property C14),
  under the representation invariant `Inv`: element identities are unique, keys are unique, and the map sends
  exactly the keys of the list to the identity of their element.
-/
namespace Rux
namespace Tie
open GoRt

variable {ρ : Type}

/-- the abstract cache a generated `cachedRoutes` record stands for -/
def absC (c : Gen.CR ρ) : Cache Bytes (Option ρ) :=
  ⟨c.size.toNat, c.list.items.map (fun e => (e.key, e.val))⟩

structure Inv (c : Gen.CR ρ) : Prop where
  ids : (c.list.items.map (·.id)).Nodup
  keys : (c.list.items.map (·.key)).Nodup
  fresh : ∀ e ∈ c.list.items, e.id < c.list.nextId
  map : ∀ k, c.hashMap.get k = (c.list.items.find? (fun e => e.key == k)).map (·.id)

theorem tie_Len (c : Gen.CR ρ) : Gen.CR.Len c = ((absC c).len : Int) := by
  simp [Gen.CR.Len, Id.run, GoRt.idPure, LList.len, absC, Cache.len]

theorem hget_del (m : HMap) (k k' : Bytes) : (m.del k).get k' = if k' = k then none else m.get k' := by
  unfold HMap.del HMap.get
  rw [find?_filter_key_ne Prod.fst]
  split <;> rfl

theorem hget_set (m : HMap) (k k' : Bytes) (i : Nat) :
    (m.set k (some i)).get k' = if k' = k then some i else m.get k' := by
  unfold HMap.set HMap.del HMap.get
  rw [find?_cons_filter_key]
  split <;> rfl

/-! ### the list, seen through the abstraction -/

theorem abs_find (l : List (LElem ρ)) (k : Bytes) :
    (l.map (fun e => (e.key, e.val))).find? (fun x => decide (x.1 = k)) = (l.find? (fun e => e.key == k)).map (fun e => (e.key, e.val)) := by
  rw [List.find?_map]
  congr 2
  funext a
  by_cases h : a.key = k <;> simp [h]

theorem abs_any (l : List (LElem ρ)) (k : Bytes) :
    (l.map (fun e => (e.key, e.val))).any (fun x => decide (x.1 = k)) = (l.find? (fun e => e.key == k)).isSome := by
  rw [Bool.eq_iff_iff, List.any_eq_true, ← Option.isSome_map, ← abs_find, List.find?_isSome]

theorem abs_rmKey (l : List (LElem ρ)) (k : Bytes) :
    rmKey k (l.map (fun e => (e.key, e.val))) = (l.filter (fun y => y.key != k)).map (fun e => (e.key, e.val)) := by
  unfold rmKey
  rw [List.filter_map]
  congr 2
  funext y
  rw [Bool.eq_iff_iff]; simp

/-! ### the invariant: what it knows about a key, and the four changes of the representation that keep it -/

namespace Inv
variable {c : Gen.CR ρ} (h : Inv c)
include h

theorem lookup (k : Bytes) :
    (c.hashMap.get k = none ∧ c.list.items.find? (fun e => e.key == k) = none) ∨
    ∃ e ∈ c.list.items, e.key = k ∧ c.hashMap.get k = some e.id ∧
      c.list.items.find? (fun e => e.key == k) = some e ∧ c.list.find (some e.id) = some e := by
  have hm := h.map k
  cases hf : c.list.items.find? (fun e => e.key == k) with
  | none => exact .inl ⟨by rw [hm, hf]; rfl, rfl⟩
  | some e =>
    have he := List.mem_of_find?_eq_some hf
    exact .inr ⟨e, he, by simpa using List.find?_some hf, by rw [hm, hf]; rfl, rfl,
      find?_of_nodup_map LElem.id h.ids he⟩

theorem filter_id_eq_filter_key {e : LElem ρ} (he : e ∈ c.list.items) :
    c.list.items.filter (fun y => y.id != e.id) = c.list.items.filter (fun y => y.key != e.key) :=
  List.filter_congr fun y hy => by
    have : y.id = e.id ↔ y.key = e.key :=
      ⟨fun hh => congrArg (·.key) (inj_of_nodup_map (·.id) h.ids hy he hh),
       fun hh => congrArg (·.id) (inj_of_nodup_map (·.key) h.keys hy he hh)⟩
    rw [Bool.eq_iff_iff]; simp [this]

theorem moved {e : LElem ρ} (he : e ∈ c.list.items) :
    Inv { c with list := { c.list with items := e :: c.list.items.filter (fun y => y.id != e.id) } } := by
  have hkey := h.filter_id_eq_filter_key he
  refine ⟨nodup_cons_filter (·.id) h.ids e, hkey ▸ nodup_cons_filter (·.key) h.keys e, fun x hx => ?_, fun k' => ?_⟩
  · rcases List.mem_cons.mp hx with rfl | h1
    · exact h.fresh _ he
    · exact h.fresh _ (List.mem_filter.mp h1).1
  · -- the key of `e` is found at the front now, every other key where it was
    simp only [hkey, h.map k', List.find?_cons]
    by_cases hk : e.key = k'
    · subst hk; simp [find?_of_nodup_map (·.key) h.keys he]
    · rw [show (e.key == k') = false by simpa using hk, find?_filter_key_ne LElem.key, if_neg (Ne.symm hk)]

theorem removed {e : LElem ρ} (he : e ∈ c.list.items) :
    Inv { c with hashMap := c.hashMap.del e.key,
                 list := { c.list with items := c.list.items.filter (fun y => y.id != e.id) } } := by
  refine ⟨h.ids.sublist (List.filter_sublist.map _), h.keys.sublist (List.filter_sublist.map _),
    fun x hx => h.fresh _ (List.mem_filter.mp hx).1, fun k' => ?_⟩
  simp only [h.filter_id_eq_filter_key he, hget_del, h.map k', find?_filter_key_ne LElem.key]
  split <;> rfl

/-- the invariant does not look at the values -/
theorem map_val (f : LElem ρ → LElem ρ) (hid : ∀ x, (f x).id = x.id)
    (hkey : ∀ x, (f x).key = x.key) :
    Inv { c with list := { c.list with items := c.list.items.map f } } := by
  obtain ⟨hi, hk, hf, hm⟩ := h
  refine ⟨?_, ?_, ?_, ?_⟩
  · simpa only [List.map_map, Function.comp_def, hid] using hi
  · simpa only [List.map_map, Function.comp_def, hkey] using hk
  · intro x hx
    obtain ⟨y, hy, rfl⟩ := List.mem_map.mp hx
    rw [hid]; exact hf y hy
  · intro k'
    simp only [hm k', List.find?_map, Option.map_map, Function.comp_def, hid, hkey]

theorem pushed (k : Bytes) (v : Option ρ)
    (hf : c.list.items.find? (fun e => e.key == k) = none) :
    Inv { c with list := { items := ⟨c.list.nextId, k, v⟩ :: c.list.items, nextId := c.list.nextId + 1 },
                 hashMap := c.hashMap.set k (some c.list.nextId) } := by
  refine ⟨?_, ?_, fun x hx => ?_, fun k' => ?_⟩
  · refine List.nodup_cons.mpr ⟨fun hmem => ?_, h.ids⟩
    obtain ⟨y, hy, hyk⟩ := List.mem_map.mp hmem
    exact absurd hyk (Nat.ne_of_lt (h.fresh y hy))
  · refine List.nodup_cons.mpr ⟨fun hmem => ?_, h.keys⟩
    obtain ⟨y, hy, hyk⟩ := List.mem_map.mp hmem
    simpa [hyk] using List.find?_eq_none.mp hf y hy
  · rcases List.mem_cons.mp hx with rfl | h1
    · exact Nat.lt_succ_self _
    · exact Nat.lt_succ_of_lt (h.fresh x h1)
  · simp only [hget_set, List.find?_cons, h.map k']
    by_cases hk' : k' = k
    · subst hk'; simp
    · rw [if_neg hk', show (k == k') = false by simpa using Ne.symm hk']

end Inv

/-! ### the operations -/

theorem gt_toNat (n : Nat) (s : Int) : ((n : Int) > s) ↔ n > s.toNat ∨ (s < 0 ∧ n = 0 ∧ False) ∨ (s < 0 ∧ n ≥ 0 ∧ (n : Int) > s) := by
  omega

/-- the Go results are (value, found) -/
theorem tie_Get (c : Gen.CR ρ) (k : Bytes) (h : Inv c) :
    Inv (Gen.CR.Get c k).1 ∧
    absC (Gen.CR.Get c k).1 = ((absC c).get k).2 ∧
    (Gen.CR.Get c k).2.2 = ((absC c).get k).1.isSome ∧
    (Gen.CR.Get c k).2.1 = ((absC c).get k).1.join := by
  simp only [Gen.CR.Get, Id.run, GoRt.idPure, Cache.get, absC]
  rw [abs_find]
  rcases h.lookup k with ⟨hm, hf⟩ | ⟨e, he, hek, hm, hf, hfind⟩
  · simp [hm, hf, h]
  · simp only [hm, hf, Option.isSome_some, if_true, LList.moveToFront, hfind, Option.map_some]
    refine ⟨h.moved he, ?_, trivial, ?_⟩
    · simp only [List.map_cons, abs_rmKey, h.filter_id_eq_filter_key he, hek]
    · simp [LList.valOf, LList.find]

theorem tie_Delete (c : Gen.CR ρ) (k : Bytes) (h : Inv c) :
    Inv (Gen.CR.Delete c k).1 ∧
    absC (Gen.CR.Delete c k).1 = ((absC c).delete k).2 ∧
    (Gen.CR.Delete c k).2 = ((absC c).delete k).1 := by
  simp only [Gen.CR.Delete, Id.run, GoRt.idPure, Cache.delete, absC]
  rw [abs_any, abs_rmKey]
  rcases h.lookup k with ⟨hm, hf⟩ | ⟨e, he, hek, hm, hf, hfind⟩
  · have hnone : c.list.items.filter (fun y => y.key != k) = c.list.items :=
      List.filter_eq_self.mpr fun a ha => by simpa using List.find?_eq_none.mp hf a ha
    simp [hm, hf, h, hnone]
  · simp only [hm, hf, Option.isSome_some, if_true, LList.remove, LList.keyOf, hfind, Option.map_some, Option.getD_some]
    refine ⟨h.removed he, ?_, trivial⟩
    simp only [h.filter_id_eq_filter_key he, hek]

/-- the eviction in `Set` -/
theorem filter_last {l : List (LElem ρ)} (hi : (l.map (·.id)).Nodup) {x : LElem ρ} (hx : l.getLast? = some x) :
    l.filter (fun y => y.id != x.id) = l.dropLast := by
  obtain ⟨t, rfl⟩ := List.getLast?_eq_some_iff.mp hx
  rw [List.map_append, List.nodup_append] at hi
  have ht : t.filter (fun y => y.id != x.id) = t :=
    List.filter_eq_self.mpr fun y hy => by simpa using hi.2.2 _ (List.mem_map_of_mem hy) x.id (by simp)
  simp [ht]

theorem tie_Set (c : Gen.CR ρ) (k : Bytes) (v : Option ρ) (h : Inv c) :
    Inv (Gen.CR.Set c k v).1 ∧ absC (Gen.CR.Set c k v).1 = (absC c).set k v ∧ (Gen.CR.Set c k v).2 = true := by
  simp only [Gen.CR.Set, Id.run, GoRt.idPure, Cache.set]
  rw [show (absC c).items.any (fun x => decide (x.1 = k)) = _ from abs_any c.list.items k]
  rcases h.lookup k with ⟨hm, hf⟩ | ⟨e, he, hek, hm, hf, hfind⟩
  case inr =>
    simp only [hm, hf, Option.isSome_some, if_true, LList.moveToFront, hfind]
    refine ⟨(h.moved he).map_val _ (fun x => by split <;> rfl) (fun x => by split <;> rfl), ?_, trivial⟩
    -- the elements behind the front one have other identities: `setVal` leaves them alone
    have hmap : (c.list.items.filter (fun y => y.id != e.id)).map
          (fun x => if (x.id == e.id) = true then { x with val := v } else x) =
        c.list.items.filter (fun y => y.id != e.id) :=
      (List.map_congr_left fun a ha => if_neg (by simpa using (List.mem_filter.mp ha).2)).trans (List.map_id _)
    simp only [absC, LList.setVal, List.map_cons, beq_self_eq_true, if_true]
    rw [hmap, h.filter_id_eq_filter_key he, hek, abs_rmKey]
  case inl =>
    simp only [hm, hf, Option.isSome_none, Bool.false_eq_true, if_false, LList.pushFront]
    have hinv1 := h.pushed k v hf
    -- Go compares `int`s; the list is not empty, so that is the model's comparison of naturals
    simp only [LList.len, absC, List.length_cons, List.length_map, gt_iff_lt, ← Int.toNat_lt' (Nat.succ_pos _)]
    by_cases hgt : c.size.toNat < c.list.items.length + 1
    · simp only [hgt, decide_true, if_true]
      -- over capacity: the element at the back goes, from the list and from the map
      obtain ⟨x, hx⟩ : ∃ x, (⟨c.list.nextId, k, v⟩ :: c.list.items : List (LElem ρ)).getLast? = some x :=
        Option.isSome_iff_exists.mp (by simp)
      have hxm := List.mem_of_getLast? hx
      simp only [LList.back, hx, Option.map_some, Option.isNone_some, Bool.false_eq_true, if_false, LList.keyOf, LList.find,
        find?_of_nodup_map (·.id) hinv1.ids hxm, Option.getD_some, LList.remove]
      exact ⟨hinv1.removed hxm, by simp only [filter_last hinv1.ids hx, List.map_dropLast, List.map_cons], trivial⟩
    · simp only [hgt, decide_false, Bool.false_eq_true, if_false]
      exact ⟨hinv1, rfl, trivial⟩

/-- `Has` is `Get` without the value -/
theorem tie_Has (c : Gen.CR ρ) (k : Bytes) (h : Inv c) :
    Inv (Gen.CR.Has c k).1 ∧ absC (Gen.CR.Has c k).1 = ((absC c).has k).2 ∧
    (Gen.CR.Has c k).2 = ((absC c).has k).1 := by
  obtain ⟨h1, h2, h3, _⟩ := tie_Get c k h
  simp only [Gen.CR.Has, Id.run, GoRt.idPure, Cache.has]
  exact ⟨h1, h2, h3⟩

/-! ### operation sequences -/

/-- `NewCachedRoutes(size)`: empty list, empty map (the constructor is a composite literal; not translated) -/
def genNew (size : Int) : Gen.CR ρ := { size := size, list := {}, hashMap := {} }

theorem inv_new (size : Int) : Inv (genNew size : Gen.CR ρ) := by
  refine ⟨?_, ?_, ?_, ?_⟩ <;> simp [genNew, HMap.get]

theorem abs_new (size : Int) : absC (genNew size : Gen.CR ρ) = Cache.empty size.toNat := rfl

/-- one model operation executed by the GENERATED functions -/
def genStepC (c : Gen.CR ρ) : CacheOp Bytes (Option ρ) → Gen.CR ρ × CacheOut (Option ρ)
  | .set k v => ((Gen.CR.Set c k v).1, .bool (Gen.CR.Set c k v).2)
  | .get k => ((Gen.CR.Get c k).1, .val (if (Gen.CR.Get c k).2.2 then some (Gen.CR.Get c k).2.1 else none))
  | .has k => ((Gen.CR.Has c k).1, .bool (Gen.CR.Has c k).2)
  | .del k => ((Gen.CR.Delete c k).1, .bool (Gen.CR.Delete c k).2)
  | .len => (c, .nat (Gen.CR.Len c).toNat)

theorem tie_stepC (c : Gen.CR ρ) (op : CacheOp Bytes (Option ρ)) (h : Inv c) :
    Inv (genStepC c op).1 ∧ absC (genStepC c op).1 = ((absC c).step op).1 ∧
    (genStepC c op).2 = ((absC c).step op).2 := by
  cases op with
  | set k v =>
    obtain ⟨h1, h2, h3⟩ := tie_Set c k v h
    exact ⟨h1, h2, congrArg CacheOut.bool h3⟩
  | get k =>
    obtain ⟨h1, h2, h3, h4⟩ := tie_Get c k h
    refine ⟨h1, h2, congrArg CacheOut.val ?_⟩
    rw [h3, h4]
    cases ((absC c).get k).1 <;> rfl
  | has k =>
    obtain ⟨h1, h2, h3⟩ := tie_Has c k h
    exact ⟨h1, h2, congrArg CacheOut.bool h3⟩
  | del k =>
    obtain ⟨h1, h2, h3⟩ := tie_Delete c k h
    exact ⟨h1, h2, congrArg CacheOut.bool h3⟩
  | len => exact ⟨h, rfl, congrArg CacheOut.nat (by rw [tie_Len]; rfl)⟩

def genRunC (c : Gen.CR ρ) : List (CacheOp Bytes (Option ρ)) → Gen.CR ρ
  | [] => c
  | op :: ops => genRunC (genStepC c op).1 ops

def genOutputsC (c : Gen.CR ρ) : List (CacheOp Bytes (Option ρ)) → List (CacheOut (Option ρ))
  | [] => []
  | op :: ops => (genStepC c op).2 :: genOutputsC (genStepC c op).1 ops

theorem tie_runC (ops : List (CacheOp Bytes (Option ρ))) : ∀ (c : Gen.CR ρ), Inv c →
    Inv (genRunC c ops) ∧ absC (genRunC c ops) = (absC c).run ops ∧
    genOutputsC c ops = (absC c).outputs ops := by
  induction ops with
  | nil => intro c h; exact ⟨h, rfl, rfl⟩
  | cons op ops ih =>
    intro c h
    obtain ⟨h1, h2, h3⟩ := tie_stepC c op h
    obtain ⟨i1, i2, i3⟩ := ih _ h1
    refine ⟨i1, ?_, ?_⟩
    · simp only [genRunC, Cache.run]; rw [i2, h2]
    · simp only [genOutputsC, Cache.outputs]; rw [i3, h2, h3]

end Tie
end Rux
