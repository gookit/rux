import RuxModel.Tie.Quick
import RuxModel.Tie.Match
import RuxModel.Tie.Allowed
/-
  The matching pipeline AS GENERATED, composed: `QuickMatch` (parse_match.go) calling the generated `Router.match`
  and the generated `findAllowedMethods` (which calls the generated `match` again) — no model function in between —
  answers what the model's `quickMatch` answers, and leaves the model's router state.

  Tie/Quick.lean proves this over every environment that agrees with the model's lookups (`tie_QuickMatch_env`);
  Tie/Match.lean and Tie/Allowed.lean prove that the generated `match` / `findAllowedMethods` do.  `envG` is the
  environment whose operations are the generated functions themselves.
-/
namespace Rux
namespace Tie
open GoRt

/-- the generated `Router.match` (over the model's tables and cache, `envMatch`) as the `match` operation of
    `QuickMatch` / `findAllowedMethods`; a panic (only for the empty path, which `formatPath` never produces) would be
    "no route" -/
def genMatchOp (g : Gen.Router) (s : RouterM) (m p : Bytes) : (Option (RouteM × Bool) × Option Params) × RouterM :=
  match Gen.Router.match_ g m p envMatch s with
  | .ok (s', ro, po) => ((ro.map (fun x => (x.1, x.2.isSome)), ro.map (fun _ => po.getD [])), s')
  | .error _ => ((none, none), s)

/-- `match` = the generated function; the operation `findAllowed` is not used by `findAllowedMethods` -/
def envG0 (g : Gen.Router) : QMEnv RouterM (RouteM × Bool) Params where
  match_ := genMatchOp g
  findAllowed s _ _ := ([], s)
  stable := envM.stable

/-- every operation of `QuickMatch` is the generated function; `ord` = the order in which Go visits the map keys -/
def envG (g : Gen.Router) (ord : List Bytes → List Bytes) : QMEnv RouterM (RouteM × Bool) Params where
  match_ := genMatchOp g
  findAllowed s m p :=
    let r := Gen.Router.findAllowedMethods g m p (envG0 g) anyMethodsB ord s
    (r.2, r.1)
  stable := envM.stable

theorem genMatchOp_eq (g : Gen.Router) (s : RouterM) (hc : g.enableCaching = s.opts.caching) (m p : Bytes)
    (hp : p ≠ []) : genMatchOp g s m p = envM.match_ s m p := by
  obtain ⟨ro, po, hgen, hmod⟩ := tie_match g s hc m p hp
  rw [genMatchOp, hgen, envM_match, hmod]
  cases ro <;> rfl

-- `hord` is not used: both branches of `if len(alm) > 0` in `QuickMatch` return the same tuple
set_option linter.unusedVariables false in
theorem tie_pipeline (g : Gen.Router) (ord : List Bytes → List Bytes) (rt : RouterM) (h : OptsRel g rt.opts)
    (hc : g.enableCaching = rt.opts.caching) (hnd : anyMethodsB.Nodup) (hord : ∀ l, (ord l).length = l.length)
    (m p : Bytes) :
    Gen.Router.QuickMatch g m p (envG g ord) rt =
      .ok ((quickMatch rt m p).2, absResO ord (quickMatch rt m p).1) := by
  -- on the paths `QuickMatch` looks up (normalised, so they start with '/') the generated `match` is the model's
  have hm := fun s m' p' (ho : s.opts = rt.opts) =>
    genMatchOp_eq g s (ho ▸ hc) m' (fmtPath rt.opts.strict p') fun h => nomatch h ▸ fmtPath_head _ p'
  exact tie_QuickMatch_env (envG g ord) ord g rt h m p rfl hm
    fun s p' ho => congrArg (fun r => (r.2, r.1))
      (tie_findAllowed_env (envG0 g) g s m _ ord (fun s' m' ho' => hm s' m' p' (ho'.trans ho)) hnd)

end Tie
end Rux
