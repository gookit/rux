import RuxModel.Generated.Code
import RuxModel.Model.Table
import RuxModel.Tie.Path
import RuxModel.Lemmas.Rt
import RuxModel.Lemmas.Transparent
/-
  Tie: the definition generated from parse_match.go `Router.match` — static table, route cache, the
  first-segment-keyed lists with the literal-prefix pre-filter, the residual lists; a dynamic match is stored in
  the cache — is the hand-written `matchM` of Model/Table.lean when the abstract tables and per-route operations
  are instantiated with the model's.
-/
namespace Rux
namespace Tie
open GoRt

variable {σ ρ π : Type}

/-! ### part 1: the generated function for any environment, loops as `List.find?` -/

/-- one of the two loops of `match`; the pre-filter `useStart` is the regular tier's -/
def loopSpec (env : MEnv σ ρ π) (m p : Bytes) (useStart : Bool) (l : List ρ) (s : σ) :
    Option (σ × Option ρ × Option π) × σ :=
  match l.find? (fun el => (!useStart || GoRt.index p (env.start el) == 0) && (env.matchRegex el p).2) with
  | some el =>
    (some (env.cacheDynamic s (m ++ p) (env.matchRegex el p).1 el, some el, (env.matchRegex el p).1),
      env.cacheDynamic s (m ++ p) (env.matchRegex el p).1 el)
  | none => (none, s)

def irrSpec (env : MEnv σ ρ π) (m p : Bytes) (s1 : σ) : Except Panic (σ × Option ρ × Option π) :=
  if (env.irregular s1 m).2 = true then
    match (loopSpec env m p false (env.irregular s1 m).1 s1).1 with
    | some r => .ok r
    | none => .ok ((loopSpec env m p false (env.irregular s1 m).1 s1).2, none, none)
  else .ok (s1, none, none)

/-- the dynamic tiers (after the static table and the cache missed) -/
def dynSpec (env : MEnv σ ρ π) (m p : Bytes) (s : σ) : Except Panic (σ × Option ρ × Option π) :=
  match GoRt.slice p 1 p.length with
  | .error e => .error e
  | .ok v =>
    if decide (GoRt.indexByte v 47 > 0) = true then
      match GoRt.slice p 1 (GoRt.indexByte v 47 + 1) with
      | .error e => .error e
      | .ok k =>
        if (env.regular s (m ++ k)).2 = true then
          match (loopSpec env m p true (env.regular s (m ++ k)).1 s).1 with
          | some r => .ok r
          | none => irrSpec env m p (loopSpec env m p true (env.regular s (m ++ k)).1 s).2
        else irrSpec env m p s
    else irrSpec env m p s

def matchSpec (env : MEnv σ ρ π) (g : Gen.Router) (m p : Bytes) (s : σ) : Except Panic (σ × Option ρ × Option π) :=
  if (env.stable s (m ++ p)).isSome = true then .ok (s, env.stable s (m ++ p), none)
  else if g.enableCaching = true then
    if (env.cacheGet s (m ++ p)).1.2 = true then
      .ok ((env.cacheGet s (m ++ p)).2, (env.cacheGet s (m ++ p)).1.1, env.paramsClone (env.cacheGet s (m ++ p)).1.1)
    else dynSpec env m p (env.cacheGet s (m ++ p)).2
  else dynSpec env m p s

theorem gen_match_eq_spec (env : MEnv σ ρ π) (g : Gen.Router) (m p : Bytes) (s : σ) :
    Gen.Router.match_ g m p env s = matchSpec env g m p s := by
  unfold Gen.Router.match_ matchSpec
  simp only [bind, Except.bind, pure, Except.pure]
  /- The dynamic tiers occur twice in the generated text, the residual tier three times in each: every part is stated
     once, its text `_` filled in from the goal.  Both sides are the same tree of `if`s and `match`es with different
     auxiliary matchers, which `rfl` does not see through while the scrutinee is stuck: `ite_congr` at an `if`,
     `cases` at a `match`.  Read from the bottom: what is claimed first is proved last. -/
  suffices irl : ∀ l s1, forIn l (none, s1) _ = Except.ok (loopSpec env m p false l s1) by
    suffices reg : ∀ l s1, forIn l (none, s1) _ = Except.ok (loopSpec env m p true l s1) by
      suffices irr : ∀ s1, _ = irrSpec env m p s1 by
        suffices dyn : ∀ s1, _ = dynSpec env m p s1 by
          refine ite_congr rfl (fun _ => rfl) fun _ => ?_
          refine ite_congr rfl (fun _ => ite_congr rfl (fun _ => rfl) fun _ => ?_) fun _ => ?_
          -- a variable state first: unification then abstracts the text over it
          · generalize (env.cacheGet s (m ++ p)).2 = s1
            exact dyn s1
          · exact dyn s
        intro s1
        unfold dynSpec
        cases slice p 1 p.length with
        | error e => rfl
        | ok v =>
          refine ite_congr rfl (fun _ => ?_) fun _ => irr s1
          cases slice p 1 (indexByte v 47 + 1) with
          | error e => rfl
          | ok k =>
            refine ite_congr rfl (fun _ => ?_) fun _ => irr s1
            rw [reg]
            rcases loopSpec env m p true _ _ with ⟨_ | r, s2⟩
            · exact irr s2
            · rfl
      intro s1
      unfold irrSpec
      refine ite_congr rfl (fun _ => ?_) fun _ => rfl
      rw [irl]
      rcases loopSpec env m p false _ _ with ⟨_ | r, s2⟩ <;> rfl
    exact fun l s1 => forIn_find l fun a _ => by
      cases h1 : GoRt.index p (env.start a) == 0 <;> cases (env.matchRegex a p).2 <;> simp [bne, h1]
  exact fun l s1 => forIn_find l fun a _ => by cases (env.matchRegex a p).2 <;> rfl

/-! ### what a returned route tells about the state -/

section
variable {env : MEnv σ ρ π} {m p : Bytes} {b : Bool} {l : List ρ} {s s1 : σ} {r : ρ} {ps : Option π}

theorem loopSpec_stores (h : (loopSpec env m p b l s).1 = some (s1, some r, ps)) :
    s1 = env.cacheDynamic s (m ++ p) ps r ∧ ps = (env.matchRegex r p).1 := by
  revert h
  fun_cases loopSpec env m p b l s
  · intro h; cases h; exact ⟨rfl, rfl⟩
  · exact nofun

theorem loopSpec_state (h : (loopSpec env m p b l s).1 = none) : (loopSpec env m p b l s).2 = s := by
  revert h
  fun_cases loopSpec env m p b l s
  · exact nofun
  · exact fun _ => rfl

theorem irrSpec_route (h : irrSpec env m p s = .ok (s1, some r, ps)) :
    s1 = env.cacheDynamic s (m ++ p) ps r ∧ ps = (env.matchRegex r p).1 := by
  revert h
  fun_cases irrSpec env m p s
  · rename_i hx
    intro h; cases h
    exact loopSpec_stores hx
  · exact nofun
  · exact nofun

theorem dynSpec_route (h : dynSpec env m p s = .ok (s1, some r, ps)) :
    s1 = env.cacheDynamic s (m ++ p) ps r ∧ ps = (env.matchRegex r p).1 := by
  revert h
  fun_cases dynSpec env m p s
  · exact nofun
  · exact nofun
  · rename_i hx                         -- found by the regular loop
    intro h; cases h
    exact loopSpec_stores hx
  · rename_i hn                         -- not found there: on from the same state
    rw [loopSpec_state hn]
    exact irrSpec_route
  · exact irrSpec_route                 -- no regular list
  · exact irrSpec_route                 -- no first segment

end

/-! ### part 2: the environment instantiated with the model's tables -/

/-- routes of the generated code = model routes, with the cached params when the route is a cache copy -/
abbrev MRoute := RouteM × Option Params

/-- the model's tables, cache and `routeMatch` as the environment of the generated `match` -/
def envMatch : MEnv RouterM MRoute Params where
  stable s k := (alistGet s.stable k).map (·, none)
  cacheGet s k :=
    match s.cache.get k with
    | (some (r, ps), c1) => ((some (r, some ps), true), { s with cache := c1 })
    | (none, c1) => ((none, false), { s with cache := c1 })
  paramsClone o := o.bind (·.2)
  regular s k :=
    match alistGet s.regular k with
    | some l => (l.map (·, none), true)
    | none => ([], false)
  irregular s k :=
    match alistGet s.irregular k with
    | some l => (l.map (·, none), true)
    | none => ([], false)
  start r := r.1.info.start
  matchRegex r p :=
    match routeMatch r.1 p with
    | some ps => (some ps, true)
    | none => (none, false)
  cacheDynamic s key ps r := if s.opts.caching then { s with cache := s.cache.set key (r.1, ps.getD []) } else s

/-- Go's `(state, route, ps)` for an answer of the model's dynamic tiers: a route found is stored in the cache -/
def goAns (s : RouterM) (m p : Bytes) : Option (RouteM × Params) → RouterM × Option MRoute × Option Params
  | some (r, ps) => (envMatch.cacheDynamic s (m ++ p) (some ps) (r, none), some (r, none), some ps)
  | none => (s, none, none)

theorem loopSpec_envMatch (m p : Bytes) (useStart : Bool) (l : List RouteM) (s : RouterM) :
    loopSpec envMatch m p useStart (l.map (·, none)) s =
      ((firstMatch l p useStart).map fun x => goAns s m p (some x), (goAns s m p (firstMatch l p useStart)).1) := by
  unfold loopSpec firstMatch
  induction l with
  | nil => rfl
  | cons a t ih =>
    rw [List.map_cons, List.find?_cons, List.findSome?_cons]
    have hpre : (!useStart || GoRt.index p (envMatch.start (a, none)) == 0) =
        !(useStart && !Bytes.hasPrefix p a.info.start) := by
      rw [show envMatch.start (a, none) = a.info.start from rfl, index_eq_zero, Bool.not_and, Bool.not_not]
    rw [hpre]
    cases (useStart && !Bytes.hasPrefix p a.info.start)
    · cases hr : routeMatch a p with
      | some ps => simp [envMatch, hr, goAns]
      | none => simp only [envMatch, hr]; exact ih
    · exact ih

/-- `rs, ok := table[k]`: Go skips the loop when the key is absent; the model runs it over `listAt`, `[]` then:
    a miss, and the state stays -/
theorem envMatch_lists (t : List (Bytes × List RouteM)) (k : Bytes) :
    (match alistGet t k with
      | some l => (l.map (·, (none : Option Params)), true)
      | none => ([], false)) = ((listAt t k).map (·, none), (alistGet t k).isSome) := by
  unfold listAt
  cases alistGet t k <;> rfl

theorem irrSpec_envMatch (s : RouterM) (m p : Bytes) : irrSpec envMatch m p s = .ok (goAns s m p (irrTier s m p)) := by
  unfold irrSpec irrTier
  rw [show envMatch.irregular s m = _ from envMatch_lists s.irregular m, loopSpec_envMatch]
  unfold listAt
  cases alistGet s.irregular m with
  | none => rfl
  | some l => rw [Option.getD_some]; cases firstMatch l p false <;> rfl

theorem dynSpec_envMatch (s : RouterM) (m p : Bytes) (hp : p ≠ []) :
    dynSpec envMatch m p s = .ok (goAns s m p (dynMatch s m p)) := by
  unfold dynSpec dynMatch regTier
  rw [slice_from1 p (List.length_pos_iff.mpr hp)]
  cases hidx : Bytes.indexByte (p.drop 1) 0x2F with
  | none =>
    simp only [GoRt.indexByte, hidx, show ¬ ((-1 : Int) > 0) by decide, decide_false, Bool.false_eq_true, if_false]
    exact irrSpec_envMatch s m p
  | some pos =>
    simp only [GoRt.indexByte, hidx, Int.natCast_pos]
    by_cases hpos : 0 < pos
    · simp only [hpos, decide_true, if_true]
      rw [slice_1_to p pos (Nat.le_of_lt (Nat.add_lt_of_lt_sub (List.length_drop ▸ Bytes.indexByte_lt _ _ _ hidx)))]
      simp only [show ∀ k, envMatch.regular s k = _ from envMatch_lists s.regular, loopSpec_envMatch, listAt]
      cases alistGet s.regular (m ++ (p.drop 1).take pos) with
      | none => exact irrSpec_envMatch s m p
      | some l =>
        rw [Option.getD_some]
        cases firstMatch l p true with
        | none => exact irrSpec_envMatch s m p
        | some x => rfl
    · simp only [hpos, decide_false, Bool.false_eq_true, if_false]
      exact irrSpec_envMatch s m p

theorem dynMatch_cache (rt : RouterM) (c : Cache Bytes (RouteM × Params)) (m p : Bytes) :
    dynMatch { rt with cache := c } m p = dynMatch rt m p := rfl

/-- what the model's result looks like in Go's `(route, ps)`: the route (a cache copy carries its params),
    the params (`nil` for a static route), and whether it came from the cache -/
def ofGo (ro : Option MRoute) (po : Option Params) : Option (RouteM × Params × Bool) :=
  ro.map fun x => (x.1, po.getD [], x.2.isSome)

theorem tie_match (g : Gen.Router) (rt : RouterM) (hc : g.enableCaching = rt.opts.caching)
    (m p : Bytes) (hp : p ≠ []) :
    ∃ ro po, Gen.Router.match_ g m p envMatch rt = .ok ((matchM rt m p).2, ro, po) ∧
      (matchM rt m p).1 = ofGo ro po := by
  rw [gen_match_eq_spec]
  unfold matchSpec
  cases hst : alistGet rt.stable (m ++ p) with
  | some r =>
    have hM : matchM rt m p = (some (r, [], false), rt) := by unfold matchM; rw [hst]
    exact ⟨some (r, none), none, by simp [envMatch, hst, hM], by simp [hM, ofGo]⟩
  | none =>
    have hM := matchM_dyn rt m p hst
    -- the dynamic tiers, entered with the cache `c1` that the consultation (if any) left
    have miss : ∀ c1, (if rt.opts.caching = true then rt.cache.get (m ++ p) else (none, rt.cache)) = (none, c1) →
        ∃ ro po, dynSpec envMatch m p { rt with cache := c1 } = .ok ((matchM rt m p).2, ro, po) ∧
          (matchM rt m p).1 = ofGo ro po := by
      intro c1 hg
      rw [hM, hg, dynSpec_envMatch _ m p hp, dynMatch_cache]
      cases dynMatch rt m p with
      | none => exact ⟨none, none, rfl, rfl⟩
      | some x =>
        obtain ⟨r, ps⟩ := x
        exact ⟨some (r, none), some ps, by simp only [goAns, envMatch, Option.getD_some]; split <;> rfl, rfl⟩
    have hst' : (envMatch.stable rt (m ++ p)).isSome = false := by simp [envMatch, hst]
    simp only [hst', Bool.false_eq_true, if_false, hc]
    cases hcach : rt.opts.caching with
    | false => exact miss rt.cache (by rw [hcach]; rfl)
    | true =>
      rcases hget : rt.cache.get (m ++ p) with ⟨_ | ⟨r, ps⟩, c1⟩
      · have hg : envMatch.cacheGet rt (m ++ p) = ((none, false), { rt with cache := c1 }) := by
          simp only [envMatch, hget]
        simp only [hg, Bool.false_eq_true, if_false, if_true]
        exact miss c1 (by rw [hcach, hget]; rfl)
      · have hg : envMatch.cacheGet rt (m ++ p) = ((some (r, some ps), true), { rt with cache := c1 }) := by
          simp only [envMatch, hget]
        simp only [hg, if_true, hM, hcach, hget]
        exact ⟨some (r, some ps), some ps, by simp [envMatch], by simp [ofGo]⟩

end Tie
end Rux
