import RuxModel.Generated.Code
import RuxModel.Model.Render
/-
  pkg/render as generated: `writeContentType`, `Blob` and its aliases, and the content negotiation of `Auto`, brought
  into closed forms.  The http.ResponseWriter is `GoRt.HW` (header map and the `Write` calls received); what `Write`
  answers (`wans`), the three renderers `Auto` hands the value to and the parsed Accept header are parameters.

  These are statements about the generated code alone: the model (Model/Render.lean) comes in only through the `#guard`s
  after `akindOf`, which compare it with `Render.kindOf` on the five MIME names.
-/
namespace Rux
namespace Tie
open GoRt

-- "Content-Type" (compared by a `#guard` in Props/C19Gen.lean)
def hContentType : Bytes := [0x43, 0x6F, 0x6E, 0x74, 0x65, 0x6E, 0x74, 0x2D, 0x54, 0x79, 0x70, 0x65]

/-- the `Content-Type` of a writer -/
def HW.ct (w : HW) : Option Bytes := (w.header.find? (fun x => x.1 == hContentType)).map (·.2)

theorem hdrGet_ct (w : HW) : hdrGet w.header hContentType = (HW.ct w).toList := by
  unfold hdrGet HW.ct
  cases w.header.find? (fun x => x.1 == hContentType) <;> rfl

theorem ct_set (w : HW) (v : Bytes) : HW.ct (HW.set w hContentType v) = some v := by
  simp [HW.ct, HW.set]

theorem ct_write (w : HW) (d : Bytes) : HW.ct (HW.write w d) = HW.ct w := rfl

/-- **`writeContentType`**: the value is stored only when the writer has no `Content-Type` yet; nothing else of the
    writer changes, nothing is written -/
theorem writeContentType_eq (w : HW) (v : Bytes) :
    Gen.writeContentType w v = if (HW.ct w).isSome then w else HW.set w hContentType v := by
  unfold Gen.writeContentType
  simp only [Id.run, pure]
  rw [← hContentType, hdrGet_ct]
  cases HW.ct w <;> simp

theorem writeContentType_ct (w : HW) (v : Bytes) :
    HW.ct (Gen.writeContentType w v) = some ((HW.ct w).getD v) ∧ (Gen.writeContentType w v).log = w.log := by
  rw [writeContentType_eq]
  cases h : HW.ct w with
  | none => exact ⟨by simpa using ct_set w v, rfl⟩
  | some c => simp [h]

/-- **`Blob`**: content type by the rule above, then ONE `Write` of the data when it is not empty (none when it is),
    whose error is returned -/
theorem renderBlob_eq (w : HW) (ct data : Bytes) (wans : HW → Bool) :
    Gen.renderBlob w ct data wans =
      if data = [] then (Gen.writeContentType w ct, false)
      else (HW.write (Gen.writeContentType w ct) data, wans (HW.write (Gen.writeContentType w ct) data)) := by
  unfold Gen.renderBlob
  cases data <;> simp

theorem renderBlob_ct (w : HW) (ct data : Bytes) (wans : HW → Bool) :
    HW.ct (Gen.renderBlob w ct data wans).1 = some ((HW.ct w).getD ct) := by
  rw [renderBlob_eq, apply_ite Prod.fst, apply_ite HW.ct, ct_write, ite_self]
  exact (writeContentType_ct w ct).1

/-! ### `Auto` -/

inductive AKind | json | html | text | xml
  deriving DecidableEq, Repr

/-- the `switch accept` of `Auto`, on the byte strings that go/types folded the `httpctype.MIME…` constants to -/
def akindOf (t : Bytes) : Option AKind :=
  if t = [97, 112, 112, 108, 105, 99, 97, 116, 105, 111, 110, 47, 106, 115, 111, 110] then some .json
  else if t = [116, 101, 120, 116, 47, 104, 116, 109, 108] then some .html
  else if t = [116, 101, 120, 116, 47, 112, 108, 97, 105, 110] then some .text
  else if t = [97, 112, 112, 108, 105, 99, 97, 116, 105, 111, 110, 47, 120, 109, 108] ∨ t = [116, 101, 120, 116, 47, 120, 109, 108] then some .xml
  else none

-- … which are the model's MIME names (evaluated checks: `String.toUTF8` does not reduce in the kernel)
#guard akindOf Render.mimeJSON == some .json && akindOf Render.mimeHTML == some .html && akindOf Render.mimeText == some .text
#guard akindOf Render.mimeXML == some .xml && akindOf Render.mimeXML2 == some .xml
#guard (Render.kindOf Render.mimeJSON).isSome && (Render.kindOf (Render.mimeJSON ++ [0x20])).isNone

/-- what the selected case does: hand the value to the renderer of that kind (html: nothing is rendered) -/
def arun (env : RAEnv HW) (k : AKind) (w : HW) (e : Bool) : HW × Bool :=
  match k with
  | .json => env.json w
  | .html => (w, e)
  | .text => env.text w
  | .xml => env.xml w

/-- the loop of `Auto` for any body that behaves like the `switch` + `if handled { break }` -/
theorem auto_loop (env : RAEnv HW) (body : Bytes → HW × Bool × Bool → Id (ForInStep (HW × Bool × Bool)))
    (hbody : ∀ a w e, body a (w, e, false) =
      match akindOf a with
      | some k => ForInStep.done ((arun env k w e).1, (arun env k w e).2, true)
      | none => ForInStep.yield (w, e, false)) :
    ∀ (l : List Bytes) (w : HW) (e : Bool), (forIn l (w, e, false) body : Id _) =
      match l.findSome? akindOf with
      | some k => ((arun env k w e).1, (arun env k w e).2, true)
      | none => (w, e, false) := by
  intro l
  induction l with
  | nil => intro w e; rfl
  | cons a t ih =>
    intro w e
    simp only [List.forIn_cons, hbody, List.findSome?_cons]
    cases akindOf a with
    | some k => rfl
    | none => exact ih w e

/-- **`Auto`**: the Accept header is parsed (an empty list is replaced by the fallback type); the FIRST listed type
    that has a case in the switch is the one rendered, with the renderer of that kind, exactly once — the types behind
    it are not looked at; when no listed type has a case the call returns an error and nothing is rendered. -/
theorem renderAuto_eq (w : HW) (r : Option Nat) (env : RAEnv HW) (fb : Bytes) :
    Gen.renderAuto w r () env fb =
      (let acc := env.parseAccept (env.acceptHeader [65, 99, 99, 101, 112, 116])
       let acc := if acc = [] then [fb] else acc
       match acc.findSome? akindOf with
       | some k => arun env k w false
       | none => (w, true)) := by
  unfold Gen.renderAuto
  simp only [Id.run, beq_iff_eq (α := Int), Int.natCast_eq_zero, List.length_eq_zero_iff]
  rw [auto_loop env _ (by
    intro a w e
    -- the `switch` and `akindOf` branch on the same comparisons: name their outcomes
    conv => rhs; simp only [akindOf, ← beq_iff_eq (a := a), ← Bool.or_eq_true]
    generalize (a == _) = b1
    generalize (a == _) = b2
    generalize (a == _) = b3
    generalize (a == _ || a == _) = b4
    cases b1
    cases b2
    cases b3
    cases b4
    all_goals rfl)]
  generalize (if env.parseAccept _ = [] then [fb] else _) = acc
  cases List.findSome? akindOf acc <;> rfl

end Tie
end Rux
