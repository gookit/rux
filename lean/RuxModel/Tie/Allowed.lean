import RuxModel.Generated.Code
import RuxModel.Tie.Quick
import RuxModel.Lemmas.Rt
/-
  parse_match.go `Router.findAllowedMethods` as generated = the model's `findAllowed`.

  The Go function collects the other supported methods under which the path matches in a map used as a set and then
  ranges over the map: the order of the result is unspecified.  The translation represents the map by the list of its
  keys (insertion order) and takes the visiting order as a parameter `ord`; the tie holds for every `ord` that returns a
  permutation: the answer is a permutation of the model's list (the model lists them in source order; callers and the
  engines compare the SET), the router state afterwards is the model's.
-/
namespace Rux
namespace Tie
open GoRt

theorem faStep_sub (method path a : Bytes) (acc : List Bytes × RouterM) :
    ∀ x ∈ (faStep method path acc a).1, x ∈ acc.1 ∨ x = a := by
  fun_cases faStep method path acc a
  · exact fun x hx => .inl hx
  · dsimp only
    split
    · exact fun x hx => by simpa using hx
    · exact fun x hx => .inl hx

/-- the first loop: its step `G` need agree with `faStep` only on a method not collected yet -/
theorem fa_fold (G : Bytes → RouterM × List Bytes → RouterM × List Bytes) (o : Opts) (method path : Bytes)
    (hG : ∀ a (acc : List Bytes × RouterM), acc.2.opts = o → a ∉ acc.1 →
      G a (acc.2, acc.1) = ((faStep method path acc a).2, (faStep method path acc a).1)) (ms : List Bytes) :
    ∀ (acc : List Bytes × RouterM), acc.2.opts = o → (∀ m ∈ ms, m ∉ acc.1) → ms.Nodup →
    ms.foldl (fun b m => G m b) (acc.2, acc.1)
      = ((ms.foldl (faStep method path) acc).2, (ms.foldl (faStep method path) acc).1) := by
  induction ms with
  | nil => intro acc _ _ _; rfl
  | cons a t ih =>
    intro acc hacc hnot hnd
    obtain ⟨hat, ht⟩ := List.nodup_cons.mp hnd
    rw [List.foldl_cons, List.foldl_cons, hG a acc hacc (hnot a List.mem_cons_self)]
    refine ih _ ?_ (fun m hm hin => ?_) ht
    · exact (faStep_tables method path acc a).opts.trans hacc
    · rcases faStep_sub method path a acc m hin with h | rfl
      · exact hnot m (List.mem_cons_of_mem _ hm) h
      · exact hat hm

theorem tie_findAllowed_env (env : QMEnv RouterM (RouteM × Bool) Params) (g : Gen.Router) (rt : RouterM)
    (method path : Bytes) (ord : List Bytes → List Bytes)
    (henv : ∀ s m, s.opts = rt.opts → env.match_ s m path = envM.match_ s m path) (hnd : anyMethodsB.Nodup) :
    Gen.Router.findAllowedMethods g method path env anyMethodsB ord rt
      = ((findAllowed rt method path).2,
         if decide (((findAllowed rt method path).1.length : Int) > 0) then ord (findAllowed rt method path).1 else []) := by
  unfold Gen.Router.findAllowedMethods
  simp only [Id.run, pure, bind, ← apply_ite ForInStep.yield]
  -- first loop: `fa_fold`; second loop: the visited keys, in the order visited
  rw [forIn_yield_id _ _ (fun _ _ => rfl), fa_fold _ rt.opts method path ?_ anyMethodsB ([], rt) rfl (fun _ _ => List.not_mem_nil) hnd]
  · simp only [forIn_yield_id _ (fun a b => b ++ [a]) (fun _ _ => rfl), List.foldl_append_eq_append, ← List.flatMap_def,
      List.flatMap_singleton', List.nil_append]
    exact (apply_ite (Prod.mk _) _ _ _).symm
  -- one iteration: the set-insert is a plain append for a method not collected yet
  intro a acc hacc ha
  unfold faStep
  by_cases h : a = method
  · simp [h]
  · simp only [beq_eq_false_iff_ne.mpr h, Bool.false_eq_true, if_false, if_neg h, henv _ _ hacc, envM_match, Option.isSome_map,
      setInsert, if_neg ha]
    cases (matchM acc.2 a path).1.isSome <;> rfl

theorem tie_findAllowed (g : Gen.Router) (rt : RouterM) (method path : Bytes) (ord : List Bytes → List Bytes)
    (hnd : anyMethodsB.Nodup) :
    Gen.Router.findAllowedMethods g method path envM anyMethodsB ord rt
      = ((findAllowed rt method path).2,
         if decide (((findAllowed rt method path).1.length : Int) > 0) then ord (findAllowed rt method path).1 else []) :=
  tie_findAllowed_env envM g rt method path ord (fun _ _ _ => rfl) hnd

theorem tie_findAllowed_perm (g : Gen.Router) (rt : RouterM) (method path : Bytes) (ord : List Bytes → List Bytes)
    (hord : ∀ l, (ord l).Perm l) (hnd : anyMethodsB.Nodup) :
    (Gen.Router.findAllowedMethods g method path envM anyMethodsB ord rt).2.Perm (findAllowed rt method path).1 ∧
    (Gen.Router.findAllowedMethods g method path envM anyMethodsB ord rt).1 = (findAllowed rt method path).2 := by
  rw [tie_findAllowed g rt method path ord hnd]
  refine ⟨?_, rfl⟩
  cases hl : (findAllowed rt method path).1 with
  | nil => exact .refl _
  | cons a t => simpa only [len_pos_cons, if_true, hl] using hord (a :: t)

end Tie
end Rux
