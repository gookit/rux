import RuxModel.Generated.Code
import RuxModel.Model.Path
/-
  Tie: the definitions generated from router.go `formatPath` and utils.go `simpleFmtPath`, `isFixedPath`,
  `quotePointChar` are the hand-written ones of Model/Path.lean (C11), Model/PathFmt.lean (route table model)
  and Model/Pattern.lean (C01/C13).
-/
namespace Rux
namespace Tie

theorem byteAt_nat (s : Bytes) (i : Nat) : GoRt.byteAt s (i : Int) = Path.byteAt s i := by
  unfold GoRt.byteAt Path.byteAt
  rw [if_neg (Int.not_lt.mpr (Int.natCast_nonneg i)), Int.toNat_natCast]
  cases s[i]? <;> rfl

/-- generated `Router.formatPath` = `Path.formatPath` (the `Except` version whose totality is C11_total) -/
theorem tie_formatPath (r : Gen.Router) (path : Bytes) :
    Gen.Router.formatPath r path = Path.formatPath r.strictLastSlash path := by
  unfold Gen.Router.formatPath Path.formatPath
  -- the two index reads are the model's, the Boolean tests are the model's propositions; then it is the same program
  have h0 : ∀ s, GoRt.byteAt s (0 : Int) = Path.byteAt s 0 := fun s => byteAt_nat s 0
  have h1 : ∀ s, GoRt.byteAt s (1 : Int) = Path.byteAt s 1 := fun s => byteAt_nat s 1
  simp only [h0, h1, Id.run, GoRt.idPure, Path.slash, Bool.or_eq_true, beq_iff_eq, bne_iff_ne]
  rfl

theorem tie_simpleFmtPath (path : Bytes) : Gen.simpleFmtPath path = Path.simpleFmtPath path := by
  simp [Gen.simpleFmtPath, Path.simpleFmtPath, Id.run, GoRt.idPure, Path.slash]

/-! ### `strings.Index`, `strings.IndexByte` in terms of the byte-string library -/

theorem indexFrom_ge (sub s : Bytes) (k r : Nat) (h : GoRt.indexFrom sub s k = some r) : k ≤ r := by
  fun_induction GoRt.indexFrom sub s k with
  | case1 k hs => cases h; exact Nat.le_refl _
  | case2 => cases h
  | case3 b t k hp => cases h; exact Nat.le_refl _
  | case4 b t k hp ih => exact Nat.le_of_succ_le (ih h)

theorem indexFrom_self (sub s : Bytes) (k : Nat) :
    GoRt.indexFrom sub s k = some k ↔ Bytes.hasPrefix s sub = true := by
  fun_cases GoRt.indexFrom sub s k with
  | case1 k hs => subst hs; simp [Bytes.hasPrefix]
  | case2 k hs => cases sub <;> simp [Bytes.hasPrefix] at hs ⊢
  | case3 b t k hp => simp [hp]
  | case4 b t k hp =>
    simp only [hp, Bool.false_eq_true, iff_false]
    exact fun hk => Nat.lt_irrefl _ (indexFrom_ge sub t (k + 1) k hk)

theorem index_eq_zero (s sub : Bytes) : (GoRt.index s sub == 0) = Bytes.hasPrefix s sub := by
  rw [Bool.eq_iff_iff, beq_iff_eq, ← indexFrom_self sub s 0, GoRt.index]
  cases GoRt.indexFrom sub s 0 <;> simp

theorem indexByte_neg (s : Bytes) (c : Nat) : decide (GoRt.indexByte s c < 0) = (Bytes.indexByte s c).isNone := by
  unfold GoRt.indexByte
  cases Bytes.indexByte s c with
  | none => simp
  | some i => simp

theorem tie_isFixedPath (s : Bytes) : Gen.isFixedPath s = Path.isFixedPath s := by
  simp [Gen.isFixedPath, Path.isFixedPath, Id.run, GoRt.idPure, indexByte_neg]

end Tie
end Rux
