import RuxModel.Generated.Code
import RuxModel.Lemmas.Rt
import RuxModel.Lemmas.List
/-
  route.go `Params.clone`, `Route.copyWithParams` and parse_match.go `Router.cacheDynamicRoute` as generated: what a
  successful dynamic lookup stores in the route cache.

  A Go map is the list of its pairs (distinct keys); the order in which `range` visits them is the parameter `ord`.  The
  closed forms below hold for EVERY `ord`; that the clone is the same MAP as the original needs only that `ord` returns
  a permutation of the pairs (what Go guarantees: every pair once).
-/
namespace Rux
namespace Tie
open GoRt

def kvFind (m : KV) (k : Bytes) : Option Bytes := (m.find? (fun x => x.1 == k)).map (·.2)

def KeysNodup (m : KV) : Prop := (m.map (·.1)).Nodup

theorem kvFind_kvSet (m : KV) (k v k' : Bytes) :
    kvFind (kvSet m k v) k' = if k' = k then some v else kvFind m k' := by
  unfold kvFind
  rw [find?_kvSet]
  split <;> rfl

theorem KeysNodup.perm {l l' : KV} (hp : l'.Perm l) (hn : KeysNodup l) : KeysNodup l' :=
  (hp.map _).nodup_iff.mpr hn

theorem kvFind_eq_some_iff {l : KV} (hn : KeysNodup l) (k v : Bytes) : kvFind l k = some v ↔ (k, v) ∈ l := by
  unfold kvFind
  constructor
  · intro h
    obtain ⟨x, hx, rfl⟩ := Option.map_eq_some_iff.mp h
    have hk : x.1 = k := by simpa using List.find?_some hx
    exact hk ▸ List.mem_of_find?_eq_some hx
  · intro h
    rw [find?_of_nodup_map (·.1) (show (l.map (·.1)).Nodup from hn) h]; rfl

theorem kvFind_perm {l l' : KV} (hp : l'.Perm l) (hn : KeysNodup l) (k : Bytes) : kvFind l' k = kvFind l k :=
  congrArg (Option.map _) (find?_perm_of_nodup_map Prod.fst hp.symm hn fun _ => beq_iff_eq).symm

theorem fold_kvSet_fresh (xs : KV) (hn : KeysNodup xs) : ∀ acc : KV, (∀ x ∈ xs, ∀ y ∈ acc, y.1 ≠ x.1) →
    xs.foldl (fun b a => kvSet b a.1 a.2) acc = xs.reverse ++ acc := by
  induction xs with
  | nil => intro acc _; rfl
  | cons a t ih =>
    intro acc hacc
    obtain ⟨hat, ht⟩ := List.nodup_cons.mp hn
    have hset : kvSet acc a.1 a.2 = a :: acc := by
      unfold kvSet
      rw [List.filter_eq_self.mpr fun y hy => by simpa using hacc a List.mem_cons_self y hy]
    rw [List.foldl_cons, hset, ih ht, List.reverse_cons, List.append_assoc, List.singleton_append]
    intro x hx y hy
    rcases List.mem_cons.mp hy with rfl | hy
    · exact fun h => hat (List.mem_map.mpr ⟨x, hx, h.symm⟩)
    · exact hacc x (List.mem_cons_of_mem _ hx) y hy

theorem clone_none (ord : KV → KV) : Gen.Params.clone none ord = none := rfl

theorem clone_some (l : KV) (ord : KV → KV) :
    Gen.Params.clone (some l) ord = (ord l).foldl (fun b a => kvSetO b a.1 a.2) (some []) := by
  unfold Gen.Params.clone
  exact forIn_yield_id (ord l) (fun a b => kvSetO b a.1 a.2) (fun _ _ => rfl) _

theorem clone_nodup (l : KV) (ord : KV → KV) (hn : KeysNodup (ord l)) :
    Gen.Params.clone (some l) ord = some (ord l).reverse := by
  rw [clone_some, List.foldl_hom some (g₁ := fun b a => kvSet b a.1 a.2) (fun _ _ => rfl),
    fold_kvSet_fresh _ hn [] (fun _ _ _ h => nomatch h), List.append_nil]

theorem clone_perm (l : KV) (ord : KV → KV) (hp : (ord l).Perm l) (hn : KeysNodup l) :
    ∃ l', Gen.Params.clone (some l) ord = some l' ∧ l'.Perm l :=
  ⟨_, clone_nodup l ord (hn.perm hp), (List.reverse_perm _).trans hp⟩

theorem clone_same_map (l : KV) (ord : KV → KV) (hp : (ord l).Perm l) (hn : KeysNodup l) :
    ∃ l', Gen.Params.clone (some l) ord = some l' ∧ ∀ k, kvFind l' k = kvFind l k := by
  obtain ⟨l', h, hl⟩ := clone_perm l ord hp hn
  exact ⟨l', h, kvFind_perm hl hn⟩

theorem clone_length (l : KV) (ord : KV → KV) (hp : (ord l).Perm l) (hn : KeysNodup l) :
    ∃ l', Gen.Params.clone (some l) ord = some l' ∧ l'.length = l.length := by
  obtain ⟨l', h, hl⟩ := clone_perm l ord hp hn
  exact ⟨l', h, hl.length_eq⟩

/-- the copy drops the compiled pattern and the variable names and holds a clone of the matched params -/
theorem copyWithParams_eq (r : Gen.Route) (ps : Option KV) (ord : KV → KV) :
    Gen.Route.copyWithParams r ps ord = { r with regex := none, matches_ := [], params := Gen.Params.clone ps ord } := rfl

theorem cacheDynamicRoute_eq {σ : Type} (g : Gen.Router) (key : Bytes) (ps : Option KV) (route : Gen.Route)
    (cacheSet : σ → Bytes → Gen.Route → σ) (ord : KV → KV) (s : σ) :
    Gen.Router.cacheDynamicRoute g key ps route cacheSet ord s =
      if g.enableCaching then cacheSet s key (Gen.Route.copyWithParams route ps ord) else s := by
  unfold Gen.Router.cacheDynamicRoute
  cases g.enableCaching <;> rfl

end Tie
end Rux
