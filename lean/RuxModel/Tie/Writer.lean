import RuxModel.Generated.Code
import RuxModel.Lemmas.Writer
/-
  Tie: the definitions generated from response_wirter.go (and the writer helpers of context.go) are the
  hand-written writer model `Rux.Writer` (Model/Writer.lean), through the relation `Rel`.

  The generated record keeps `status`, `length` and the log of calls that reached the underlying
  `http.ResponseWriter`; the hand-written model additionally tracks the Content-Type header (`ctype`, `sent`),
  which no translated function touches.
-/
namespace Rux
namespace Tie
open Writer

/-! ### the relation

  The generated log records the answer of a `Write` as a Go `int`, the model as a natural number, so `Rel.log` is
  stated through the partial `absLog`; by `absLog_iff` it says `g.log = w.log.map toWEv`. -/

/-- an event of the generated log as an event of the model; a `Write` that reports a negative count or more
    than it was given is outside the `io.Writer` contract and has no counterpart -/
def absEv : GoRt.WEv → Option Ev
  | .writeHeader c => some (.wh c)
  | .write b n err => if 0 ≤ n then some (.w b n.toNat err) else none
  | .flush => some .fl

def absLog : List GoRt.WEv → Option (List Ev)
  | [] => some []
  | e :: es => match absEv e, absLog es with
    | some a, some as => some (a :: as)
    | _, _ => none

/-- a model event as the call the underlying writer receives -/
def toWEv : Ev → GoRt.WEv
  | .wh c => .writeHeader c
  | .w b acc err => .write b acc err
  | .fl => .flush

theorem absEv_inv {e : GoRt.WEv} {e' : Ev} (h : absEv e = some e') : e = toWEv e' := by
  revert h
  fun_cases absEv e with
  | case1 | case4 => rintro ⟨⟩; rfl
  | case2 b n err hn => rintro ⟨⟩; simp [toWEv, Int.toNat_of_nonneg hn]
  | case3 => exact nofun

theorem absEv_toWEv (e : Ev) : absEv (toWEv e) = some e := by
  cases e <;> simp [toWEv, absEv]

theorem absLog_iff {l : List GoRt.WEv} {l' : List Ev} : absLog l = some l' ↔ l = l'.map toWEv := by
  constructor
  · fun_induction absLog l generalizing l' with
    | case1 => rintro ⟨⟩; rfl
    | case2 x xs a as hxs hx ih => rintro ⟨⟩; rw [List.map_cons, ← absEv_inv hx, ← ih hxs]
    | case3 => exact nofun
  · rintro rfl
    induction l' with
    | nil => rfl
    | cons e t ih => simp [absLog, absEv_toWEv, ih]

theorem absLog_append {l : List GoRt.WEv} {e : GoRt.WEv} {l' : List Ev} {e' : Ev}
    (hl : absLog l = some l') (he : absEv e = some e') : absLog (l ++ [e]) = some (l' ++ [e']) := by
  rw [absLog_iff] at hl ⊢
  rw [hl, absEv_inv he, List.map_append]
  rfl

/-- the generated writer `g` stands for the model writer `w` -/
structure Rel (g : Gen.RW) (w : W) : Prop where
  status : g.status = w.status
  length : g.length = w.length
  log : absLog g.log = some w.log

/-! ### the generated methods, one by one -/

theorem tie_Written (g : Gen.RW) (w : W) (h : Rel g w) : Gen.RW.Written g = w.written := by
  simp [Gen.RW.Written, W.written, Id.run, GoRt.idPure, h.length]

theorem tie_Status (g : Gen.RW) (w : W) (h : Rel g w) : Gen.RW.Status g = w.status := by
  simp [Gen.RW.Status, Id.run, GoRt.idPure, h.status]

theorem tie_Length (g : Gen.RW) (w : W) (h : Rel g w) : Gen.RW.Length g = w.length := by
  simp [Gen.RW.Length, Id.run, GoRt.idPure, h.length]

theorem WriteHeader_eq (g : Gen.RW) (c : Int) :
    Gen.RW.WriteHeader g c = if c > 0 ∧ g.status ≠ c then { g with status := c } else g := by
  unfold Gen.RW.WriteHeader
  simp only [Id.run, pure, Bool.and_eq_true, decide_eq_true_eq, bne_iff_ne]

theorem ensureWriteHeader_eq (g : Gen.RW) :
    Gen.RW.ensureWriteHeader g =
      if g.length = -1 then
        { g with status := norm g.status, length := 0, log := g.log ++ [.writeHeader (norm g.status)] }
      else g := by
  unfold Gen.RW.ensureWriteHeader norm Gen.RW.Written
  simp only [Id.run, pure, Bool.not_eq_true', bne_eq_false_iff_eq, beq_iff_eq]
  refine ite_congr rfl (fun _ => ?_) fun _ => rfl
  split <;> rfl

/-- `responseWriter.WriteHeader(c)` is the model's `setStatus c` -/
theorem tie_WriteHeader (g : Gen.RW) (w : W) (c : Int) (h : Rel g w) :
    Rel (Gen.RW.WriteHeader g c) (step w (.setStatus c)) := by
  rw [WriteHeader_eq, h.status]
  simp only [step]
  split
  · exact ⟨rfl, h.length, h.log⟩
  · exact h

/-- `responseWriter.ensureWriteHeader()` is the model's `ensure` -/
theorem tie_ensure (g : Gen.RW) (w : W) (h : Rel g w) : Rel (Gen.RW.ensureWriteHeader g) (ensure w) := by
  rw [ensureWriteHeader_eq, h.length, h.status]
  by_cases hl : w.length = -1
  · rw [if_pos hl, ensure_uncommitted w hl]
    exact ⟨rfl, rfl, absLog_append h.log rfl⟩
  · rw [if_neg hl, show ensure w = w from if_neg hl]
    exact h

/-- `responseWriter.Write(b)` with the underlying writer answering `(n, err)`, `0 ≤ n`, is the model's
    `write b n err`; the values returned to the caller are the underlying writer's -/
theorem tie_Write (g : Gen.RW) (w : W) (b : Bytes) (n : Nat) (err : Bool) (h : Rel g w) :
    Rel (Gen.RW.Write g b ((n : Int), err)).1 (step w (.write b n err)) ∧
    (Gen.RW.Write g b ((n : Int), err)).2 = ((n : Int), err) := by
  obtain ⟨hs, hl, hg⟩ := tie_ensure g w h
  refine ⟨?_, by simp [Gen.RW.Write, Id.run, GoRt.idPure]⟩
  simp only [Gen.RW.Write, Id.run, GoRt.idPure, step]
  exact ⟨hs, by simp [hl], absLog_append hg (by simp [absEv])⟩

/-- `responseWriter.Flush()` is the model's `flush` -/
theorem tie_Flush (g : Gen.RW) (w : W) (h : Rel g w) : Rel (Gen.RW.Flush g) (step w .flush) := by
  obtain ⟨hs, hl, hg⟩ := tie_ensure g w h
  simp only [Gen.RW.Flush, Id.run, GoRt.idPure, step]
  exact ⟨hs, hl, absLog_append hg (by simp [absEv])⟩

/-! ### operation sequences on the generated code -/

/-- one model operation executed by the GENERATED functions; operations that only touch the header map
    of the underlying writer (`setCT`, `setCTIfAbsent`, `setHeader`) leave the generated record alone -/
def genStep (g : Gen.RW) : Op → Gen.RW
  | .setStatus c => Gen.RW.WriteHeader g c
  | .write b acc err => (Gen.RW.Write g b ((acc : Int), err)).1
  | .flush => Gen.RW.Flush g
  | _ => g

def genRun (g : Gen.RW) (ops : List Op) : Gen.RW := ops.foldl genStep g

/-- the record at the start of a request: `responseWriter.reset` (GENERATED) applied to whatever the pooled
    context's writer contained before -/
def genFresh (old : Gen.RW) : Gen.RW := Gen.RW.reset old ()

/-- a whole request on the generated code: the operations, then the `ensureWriteHeader()` at the end of
    `handleHTTPRequest` -/
def genFinish (old : Gen.RW) (ops : List Op) : Gen.RW := Gen.RW.ensureWriteHeader (genRun (genFresh old) ops)

theorem tie_fresh (old : Gen.RW) (ct : Option Bytes) : Rel (genFresh old) (W.fresh ct) := ⟨rfl, rfl, rfl⟩

theorem tie_step {g : Gen.RW} {w : W} (o : Op) (h : Rel g w) : Rel (genStep g o) (step w o) := by
  cases o with
  | setStatus c => exact tie_WriteHeader g w c h
  | write b acc err => exact (tie_Write g w b acc err h).1
  | flush => exact tie_Flush g w h
  | setCT v => exact ⟨h.status, h.length, h.log⟩
  | setCTIfAbsent v => rw [step_setCTIfAbsent]; exact ⟨h.status, h.length, h.log⟩
  | setHeader => exact h

theorem tie_run {g : Gen.RW} {w : W} (ops : List Op) (h : Rel g w) : Rel (genRun g ops) (run w ops) := by
  induction ops generalizing g w with
  | nil => exact h
  | cons o os ih => exact ih (tie_step o h)

/-- the generated code, run on any operation sequence of one request, ends in the state of the model -/
theorem tie_finish (old : Gen.RW) (ct : Option Bytes) (ops : List Op) :
    Rel (genFinish old ops) (finish ct ops) :=
  tie_ensure _ _ (tie_run ops (tie_fresh old ct))

end Tie
end Rux
