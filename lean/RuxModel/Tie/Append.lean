import RuxModel.Generated.Code
import RuxModel.Model.Table
import RuxModel.Tie.Path
import RuxModel.Lemmas.Rt
/-
  Tie: the definition generated from router.go `Router.appendRoute` — name table, then ONE of: static table (one
  entry per method, later registrations replace), first-segment-keyed lists (append), residual lists (append),
  `counter++` per method — is the model's `insertRoute` (Model/Table.lean) when the abstract tables are the
  model's association lists and the route is one that `prepare` produced (`static` = `isFixedPath path`, first
  segment = what `parseParamRoute` returned).  The checks and the pattern compiler (`goodInfo`,
  `appendGroupInfo`, `parseParamRoute`) are parameters here; their model is `prepare` / `compileRoute`.
-/
namespace Rux
namespace Tie
open GoRt

/-- the model's tables as the environment of the generated `appendRoute`; the route has been prepared already -/
def envA : AEnv RouterM RouteM where
  goodInfo _ := .ok ()
  appendGroupInfo s r := .ok (s, r)
  name r := r.name
  path r := r.path
  methods r := r.methods
  parseParam _ r := .ok (r.info.first, r)
  setNamed s _ _ := s
  setStable s k r := { s with stable := alistSet s.stable k r }
  getRegular s k := match alistGet s.regular k with | some l => (l, true) | none => ([], false)
  setRegular s k l := { s with regular := alistSet s.regular k l }
  getIrregular s k := match alistGet s.irregular k with | some l => (l, true) | none => ([], false)
  setIrregular s k l := { s with irregular := alistSet s.irregular k l }

/-- each of the three loops bumps the route counter and updates one table (`put t`): on the pair, two independent
    folds.  `rw` finds `F` in the goal, the closing `rfl`s read `step` off `insertRoute`; `hF` is left over. -/
theorem fold_table {T : Type} (put : T → RouterM) (F : Gen.Router × RouterM → Bytes → Gen.Router × RouterM)
    (step : T → Bytes → T)
    (hF : ∀ g t m, F (g, put t) m = (({ g with counter := g.counter + 1 } : Gen.Router), put (step t m)))
    (ms : List Bytes) (g : Gen.Router) (t : T) :
    ms.foldl F (g, put t) = ({ g with counter := g.counter + ms.length }, put (ms.foldl step t)) := by
  induction ms generalizing g t with
  | nil => simp
  | cons a l ih =>
    rw [List.foldl_cons, hF, ih]
    simp only [List.foldl_cons, List.length_cons, Int.add_assoc, Int.natCast_add, Int.natCast_one, Int.add_comm 1]

/-- `rs, has := m[key]; if !has { rs = nil }; m[key] = append(rs, route)` is `alistAppend` -/
theorem append_step (t : List (Bytes × List RouteM)) (k : Bytes) (route : RouteM) :
    alistSet t k ((if (!(match alistGet t k with | some l => (l, true) | none => ([], false)).2) = true then []
      else (match alistGet t k with | some l => (l, true) | none => ([], false)).1) ++ [route]) = alistAppend t k route := by
  unfold alistAppend
  cases alistGet t k <;> rfl

/-- not `s' = insertRoute rt route`: Go counts in `g'`, the model in the state -/
theorem tie_appendRoute (g : Gen.Router) (rt : RouterM) (route : RouteM)
    (hst : route.static = Rux.isFixedPath route.path) :
    ∃ s' g', Gen.Router.appendRoute g route envA rt = .ok (s', g') ∧
      s'.stable = (insertRoute rt route).stable ∧ s'.regular = (insertRoute rt route).regular ∧
      s'.irregular = (insertRoute rt route).irregular ∧ s'.cache = rt.cache ∧ s'.opts = rt.opts ∧
      g'.counter = g.counter + route.methods.length := by
  -- `tie_isFixedPath` speaks of `Path.isFixedPath` (Model/Path.lean), `hst` of `Rux.isFixedPath` (Model/Pattern.lean): one text twice
  have hfix : Gen.isFixedPath route.path = route.static := (tie_isFixedPath _).trans hst.symm
  unfold Gen.Router.appendRoute
  have e1 : envA.goodInfo route = .ok () := rfl
  have e2 : envA.appendGroupInfo rt route = .ok (rt, route) := rfl
  have e3 : ∀ s, envA.parseParam s route = .ok (route.info.first, route) := fun _ => rfl
  have e4 : ∀ s k r, envA.setNamed s k r = s := fun _ _ _ => rfl
  have e5 : envA.path route = route.path := rfl
  have e6 : envA.methods route = route.methods := rfl
  simp only [bind, Except.bind, pure, Except.pure, e1, e2, e3, e4, e5, e6, hfix, ite_self, Id.run]
  have hne : (route.info.first != []) = !route.info.first.isEmpty := by cases route.info.first <;> rfl
  rw [insertRoute, hne]
  -- both sides branch alike; whichever loop runs: a fold (`forIn_yield`), counter and table apart (`fold_table`)
  by_cases hs : route.static = true
  · rw [if_pos hs, if_pos hs, forIn_yield _ _ (fun _ _ _ => rfl), fold_table fun t => { rt with stable := t }]
    · exact ⟨_, _, rfl, rfl, rfl, rfl, rfl, rfl, rfl⟩
    · exact fun _ _ _ => rfl
  rw [if_neg hs, if_neg hs]
  by_cases hf : (!route.info.first.isEmpty) = true
  · rw [if_pos hf, if_pos hf, forIn_yield _ _ (fun _ _ _ => rfl), fold_table fun t => { rt with regular := t }]
    · exact ⟨_, _, rfl, rfl, rfl, rfl, rfl, rfl, rfl⟩
    · exact fun g t m => congrArg (fun t => (_, { rt with regular := t })) (append_step t (m ++ route.info.first) route)
  · rw [if_neg hf, if_neg hf, forIn_yield _ _ (fun _ _ _ => rfl), fold_table fun t => { rt with irregular := t }]
    · exact ⟨_, _, rfl, rfl, rfl, rfl, rfl, rfl, rfl⟩
    · exact fun g t m => congrArg (fun t => (_, { rt with irregular := t })) (append_step t m route)

end Tie
end Rux
