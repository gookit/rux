/-
  Go-semantics prelude: byte strings.

  A Go `string` is a sequence of bytes.  The model represents a byte as a `Nat`
  (the harness only ever sends values < 256; theorems quantify over all lists of
  naturals, a superset of all byte strings, which only makes them stronger).
  Core Lean only — this file is linked into the driver executable.
-/
namespace Rux

abbrev Bytes := List Nat

namespace Bytes

/-! ### hex wire format (`-` is the empty string) -/

def hexDigit (n : Nat) : Char :=
  if n < 10 then Char.ofNat (48 + n) else Char.ofNat (87 + n)

def toHex (b : Bytes) : String :=
  if b.isEmpty then "-" else
  String.ofList (b.flatMap fun x => [hexDigit ((x / 16) % 16), hexDigit (x % 16)])

def hexVal (c : Char) : Option Nat :=
  let n := c.toNat
  if 48 ≤ n ∧ n ≤ 57 then some (n - 48)
  else if 97 ≤ n ∧ n ≤ 102 then some (n - 87)
  else if 65 ≤ n ∧ n ≤ 70 then some (n - 55)
  else none

def ofHexChars : List Char → Option Bytes
  | [] => some []
  | [_] => none
  | a :: b :: rest =>
    match hexVal a, hexVal b, ofHexChars rest with
    | some x, some y, some r => some ((x * 16 + y) :: r)
    | _, _, _ => none

def ofHex (s : String) : Option Bytes :=
  if s = "-" then some [] else ofHexChars s.toList

def ofString (s : String) : Bytes := s.toUTF8.toList.map (·.toNat)

/-! ### the `strings` functions rux uses -/

/-- `strings.IndexByte`; `none` is Go's `-1`. -/
def indexByte (s : Bytes) (c : Nat) : Option Nat :=
  match s with
  | [] => none
  | b :: t => if b = c then some 0 else (indexByte t c).map (· + 1)

def hasPrefix : Bytes → Bytes → Bool
  | _, [] => true
  | [], _ :: _ => false
  | a :: s, b :: p => a = b && hasPrefix s p

def hasSuffix (s p : Bytes) : Bool := hasPrefix s.reverse p.reverse

/-- `strings.TrimLeft(s, string(c))` for a single cut byte. -/
def trimLeftByte (c : Nat) : Bytes → Bytes
  | [] => []
  | b :: t => if b = c then trimLeftByte c t else b :: t

/-- `strings.TrimRight(s, string(c))` for a single cut byte. -/
def trimRightByte (c : Nat) (s : Bytes) : Bytes := (trimLeftByte c s.reverse).reverse

def isAsciiSpace (b : Nat) : Bool :=
  b = 0x20 || (0x09 ≤ b && b ≤ 0x0D)

/-- `a b` is the UTF-8 encoding of a two-byte white-space rune: U+0085, U+00A0 -/
def isSp2 (a b : Nat) : Bool := a = 0xC2 && (b = 0x85 || b = 0xA0)

/-- `a b c` is the UTF-8 encoding of a three-byte white-space rune:
    U+1680, U+2000–U+200A, U+2028, U+2029, U+202F, U+205F, U+3000 -/
def isSp3 (a b c : Nat) : Bool :=
  (a = 0xE1 && b = 0x9A && c = 0x80) ||
  (a = 0xE2 && b = 0x80 && ((0x80 ≤ c && c ≤ 0x8A) || c = 0xA8 || c = 0xA9 || c = 0xAF)) ||
  (a = 0xE2 && b = 0x81 && c = 0x9F) ||
  (a = 0xE3 && b = 0x80 && c = 0x80)

/-- `w` is the UTF-8 encoding of exactly one white-space rune (`unicode.IsSpace`) -/
def isWsRune : Bytes → Bool
  | [a] => isAsciiSpace a
  | [a, b] => isSp2 a b
  | [a, b, c] => isSp3 a b c
  | _ => false

/-- length (1–3) of a Unicode white-space rune encoded at the head of `s`, 0 if there is none.
    `unicode.IsSpace`: `\t \n \v \f \r ' '`, U+0085, U+00A0, U+1680, U+2000–U+200A, U+2028, U+2029,
    U+202F, U+205F, U+3000.  (This is what `utf8.DecodeRuneInString` + `unicode.IsSpace` see at the
    front of a Go string: an invalid or truncated sequence decodes to U+FFFD, which is no space.) -/
def spaceAtHead : Bytes → Nat
  | [] => 0
  | [a] => if isAsciiSpace a then 1 else 0
  | [a, b] => if isAsciiSpace a then 1 else if isSp2 a b then 2 else 0
  | a :: b :: c :: _ =>
    if isAsciiSpace a then 1 else if isSp2 a b then 2 else if isSp3 a b c then 3 else 0

/-- the same test on the reversed string (the rune's bytes appear last-first): what
    `utf8.DecodeLastRuneInString` + `unicode.IsSpace` see at the END of the original string. -/
def spaceAtHeadRev : Bytes → Nat
  | [] => 0
  | [a] => if isAsciiSpace a then 1 else 0
  | [a, b] => if isAsciiSpace a then 1 else if isSp2 b a then 2 else 0
  | a :: b :: c :: _ =>
    if isAsciiSpace a then 1 else if isSp2 b a then 2 else if isSp3 c b a then 3 else 0

/-- repeatedly drop the `f s` leading bytes while `f s > 0` (fuel = length suffices when
    `f s ≤ s.length`, so the recursion is structural). -/
def dropSpaces (f : Bytes → Nat) : Nat → Bytes → Bytes
  | 0, s => s
  | fuel + 1, s =>
    match f s with
    | 0 => s
    | n + 1 => dropSpaces f fuel (s.drop (n + 1))

def trimLeftSpace (s : Bytes) : Bytes := dropSpaces spaceAtHead s.length s

def trimRightSpace (s : Bytes) : Bytes := (dropSpaces spaceAtHeadRev s.length s.reverse).reverse

/-- `strings.TrimSpace` (= `TrimRightFunc(TrimLeftFunc(s, unicode.IsSpace), unicode.IsSpace)`). -/
def trimSpace (s : Bytes) : Bytes := trimRightSpace (trimLeftSpace s)

/-- is the byte string well-formed UTF-8 (as `utf8.ValidString`)? -/
def validUTF8 : Bytes → Bool
  | [] => true
  | b :: t =>
    if b < 0x80 then validUTF8 t
    else if 0xC2 ≤ b ∧ b ≤ 0xDF then
      match t with
      | c1 :: t' => (0x80 ≤ c1 && c1 ≤ 0xBF) && validUTF8 t'
      | _ => false
    else if 0xE0 ≤ b ∧ b ≤ 0xEF then
      match t with
      | c1 :: c2 :: t' =>
        let lo := if b = 0xE0 then 0xA0 else 0x80
        let hi := if b = 0xED then 0x9F else 0xBF
        (lo ≤ c1 && c1 ≤ hi) && (0x80 ≤ c2 && c2 ≤ 0xBF) && validUTF8 t'
      | _ => false
    else if 0xF0 ≤ b ∧ b ≤ 0xF4 then
      match t with
      | c1 :: c2 :: c3 :: t' =>
        let lo := if b = 0xF0 then 0x90 else 0x80
        let hi := if b = 0xF4 then 0x8F else 0xBF
        (lo ≤ c1 && c1 ≤ hi) && (0x80 ≤ c2 && c2 ≤ 0xBF) && (0x80 ≤ c3 && c3 ≤ 0xBF) && validUTF8 t'
      | _ => false
    else false

/-- on the reversed string: one trailing rune that is the ASCII byte `c` or white space -/
def spaceOrByteAtHeadRev (c : Nat) (s : Bytes) : Nat :=
  match s with
  | [] => 0
  | b :: _ => if b = c then 1 else spaceAtHeadRev s

/-- `strings.TrimRightFunc(s, func(r rune) bool { return r == c || unicode.IsSpace(r) })`
    for an ASCII byte `c`. -/
def trimRightSpaceOrByte (c : Nat) (s : Bytes) : Bytes :=
  (dropSpaces (spaceOrByteAtHeadRev c) s.length s.reverse).reverse

/-- ASCII upper-casing, as `strings.ToUpper` does on ASCII input. -/
def toUpper (s : Bytes) : Bytes := s.map fun b => if 97 ≤ b ∧ b ≤ 122 then b - 32 else b

/-- `strings.Replace(s, ".", "\\.", -1)` -/
def quoteDots (s : Bytes) : Bytes := s.flatMap fun b => if b = 0x2E then [0x5C, 0x2E] else [b]

/-- `strings.Count(s, string(c))` -/
def countByte (s : Bytes) (c : Nat) : Nat := (s.filter (· = c)).length

/-- split at every occurrence of the byte `c` (like `strings.Split`) -/
def splitOnByte (c : Nat) : Bytes → List Bytes
  | [] => [[]]
  | b :: t =>
    match splitOnByte c t with
    | [] => [[]]            -- unreachable: the result is never empty
    | hd :: tl => if b = c then [] :: hd :: tl else (b :: hd) :: tl

def join (sep : Bytes) : List Bytes → Bytes
  | [] => []
  | [a] => a
  | a :: rest => a ++ sep ++ join sep rest

end Bytes

/-! ### wire helpers for the driver -/

def boolStr (b : Bool) : String := if b then "1" else "0"

def natOfStr? (s : String) : Option Nat := s.toNat?

def intOfStr? (s : String) : Option Int :=
  if s.startsWith "-" then (s.drop 1).toNat?.map fun n => -(n : Int)
  else s.toNat?.map fun n => (n : Int)

end Rux
