import RuxModel.Model.URLBuild
import RuxModel.Props.C02
/-
  C15 — A URL built for a named route is routed back to that route.

    "BuildURL(name, values) yields a URL whose path, when requested, is dispatched to that same route
     with exactly those values"
        C15_roundtrip_reading   the text obtained by putting values that satisfy the variables' regexes
                                into the pattern IS an instance of the pattern with exactly those values
        C15_roundtrip_match     hence the matcher accepts it, and where the decomposition is unique it reports
                                exactly those values (C15_roundtrip_unique)
        — that this path then selects the named route is C01_priority (it must be the winner of
          specSelect: no static route or earlier dynamic route shadows it), and it must survive lookup
          normalisation (known finding K1: a path ending in white space or '/' does not; known finding K2:
          with several variables and a value containing '/' the decomposition is not unique).
    "additional non-variable arguments appear as query parameters"          C15_query
    the result does not depend on the order of the arguments (defect F15)    C15_order_independent,
                                                                             C15_map_order_irrelevant
    "GetRoute(name) returns the route most recently registered under that name, whichever naming API"
                                                                             C15_named_last_wins,
                                                                             C15_named_others_kept
  NOT proved: that `buildPath` (text substitution on the registered path, as the code does it) equals the
  structured substitution `substSegs` on the compiled levels; that tie is checked by the `url` correspondence
  engine (the built path and its Match result are compared with the model for every generated case).
-/
namespace Rux

/-- values for the variables of a segment list, each in the language of its variable's regex -/
inductive ValuesOK : List Seg → List Bytes → Prop where
  | nil : ValuesOK [] []
  | lit {l rest vs} : ValuesOK rest vs → ValuesOK (.lit l :: rest) vs
  | var {re rest v vs} : Lang re v → ValuesOK rest vs → ValuesOK (.var re :: rest) (v :: vs)

/-- putting such values into the pattern gives an instance of the pattern with exactly those values -/
theorem C15_roundtrip_reading (segs : List Seg) (vs : List Bytes) (h : ValuesOK segs vs) :
    SegsLang segs vs (substSegs segs vs).1 ∧ (substSegs segs vs).2 = [] := by
  induction h with
  | nil => exact ⟨SegsLang.nil, rfl⟩
  | lit _ ih => exact ⟨SegsLang.lit ih.1, ih.2⟩
  | var hv _ ih => exact ⟨SegsLang.var hv ih.1, ih.2⟩

/-- the matcher accepts the built path (a route without optional parts) … -/
theorem C15_roundtrip_match (segs : List Seg) (vs : List Bytes) (h : ValuesOK segs vs) :
    ∃ caps, matchPat [segs] (substSegs segs vs).1 = some caps :=
  Option.isSome_iff_exists.mp
    ((matchPat_isSome_iff _ _).mpr ⟨vs, LevelsLang.last (C15_roundtrip_reading segs vs h).1⟩)

/-- … and reports exactly the given values when the built path has only one decomposition -/
theorem C15_roundtrip_unique (segs : List Seg) (vs : List Bytes) (h : ValuesOK segs vs)
    (huniq : ∀ c1 c2, LevelsLang [segs] c1 (substSegs segs vs).1 → LevelsLang [segs] c2 (substSegs segs vs).1 → c1 = c2) :
    matchPat [segs] (substSegs segs vs).1 = some vs := by
  obtain ⟨caps, hc⟩ := C15_roundtrip_match segs vs h
  rw [hc]
  congr 1
  exact huniq _ _ (matchPat_some hc) (LevelsLang.last (C15_roundtrip_reading segs vs h).1)

/-- keys without braces become query parameters, keys with a brace never do -/
theorem C15_query (args : List (Bytes × Bytes)) (kv : Bytes × Bytes) :
    (kv ∈ (splitArgs args).2 ↔ kv ∈ args ∧ isParamKey kv.1 = false) ∧
    (kv ∈ (splitArgs args).1 ↔ kv ∈ args ∧ isParamKey kv.1 = true) := by
  unfold splitArgs
  simp [List.mem_filter]

/-- the built path depends on the arguments only through the value bound to each key — not on their order -/
theorem C15_order_independent (path : Bytes) (p1 p2 : List (Bytes × Bytes))
    (h : ∀ k, argGet p1 k = argGet p2 k) : buildPath path p1 = buildPath path p2 := by
  unfold buildPath buildPairs
  simp only [h]

/-- F15 as a theorem: any reordering of a map's entries builds the same path -/
theorem C15_map_order_irrelevant (path : Bytes) (p1 p2 : List (Bytes × Bytes)) (hp : p1.Perm p2)
    (hn : (p1.map (·.1)).Nodup) : buildPath path p1 = buildPath path p2 := by
  refine C15_order_independent path p1 p2 fun k => ?_
  unfold argGet
  rw [find?_perm_of_nodup_map (·.1) ((List.reverse_perm p1).trans (hp.trans (List.reverse_perm p2).symm))
    (((List.reverse_perm p1).map _).nodup_iff.mpr hn) fun _ => decide_eq_true_iff]

/-- the name index is an association list: `getRoute` is `alistGet`, and `nameRoute` under a non-empty name is `alistSet` -/
theorem getRoute_nameRoute (ns : Names) (name k : Bytes) (id : Nat) :
    getRoute (nameRoute ns name id) k =
      if (Bytes.trimSpace name).isEmpty then getRoute ns k
      else if Bytes.trimSpace name = k then some id else getRoute ns k :=
  (apply_ite (getRoute · k) _ _ _).trans (congrArg (ite _ _) (alistGet_set ns _ k id))

/-- the latest registration under a (trimmed, non-empty) name is what GetRoute returns -/
theorem C15_named_last_wins (ns : Names) (name : Bytes) (id : Nat) (h : (Bytes.trimSpace name).isEmpty = false) :
    getRoute (nameRoute ns name id) (Bytes.trimSpace name) = some id := by
  rw [getRoute_nameRoute, h]
  exact if_pos rfl

/-- … and no other name is affected (renaming a route never removes another route's name) -/
theorem C15_named_others_kept (ns : Names) (name other : Bytes) (id : Nat) (h : other ≠ Bytes.trimSpace name) :
    getRoute (nameRoute ns name id) other = getRoute ns other := by
  rw [getRoute_nameRoute, if_neg h.symm, ite_self]

end Rux
