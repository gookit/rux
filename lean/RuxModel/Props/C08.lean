import RuxModel.Lemmas.Writer
/-
  C08 — Exactly one header commit per request, with the status set before the body.

  Property theorems only (spec definitions: Spec/Writer.lean, helper lemmas: Lemmas/Writer.lean).

  Two levels.
  * Writer level: `finish ct ops` = fresh `responseWriter`, ANY list `ops` of operations reaching it
    (status settings with any integer code, header settings, writes of any bytes whose answer
    `(accepted, err)` from the underlying writer is part of the operation — short and failing writes
    included —, flushes), then the commit at the end of dispatch.  Quantified over every such list and
    every Content-Type already present on the underlying writer.
  * Request level: `serve cfg prog` = one pass through `handleHTTPRequest` for ANY program of handler
    actions (SetStatus/WriteHeader, SetHeader, Write, WriteBytes which panics on a failing write, Flush,
    http.Error, Redirect, AbortWithStatus with and without message, AddError, panic) placed in any blocks
    of the chain (before/after `c.Next()`), in `OnError` and in `OnPanic`.

  Clause of the statement                                        theorem(s)
  ---------------------------------------------------------------------------------------------------
  "exactly one WriteHeader call, before any body byte"           C08_one_commit, C08_one_commit_count,
                                                                 C08_log_exact, C08_request_one_commit
  "carrying the last positive status set before the first        C08_status, C08_status_fixed_at_first_io,
   write or flush (200 if none was set)"                         C08_status_default
  "the body is the concatenation of all writes in order"         C08_body
  "Length() equals the number of bytes accepted"                 C08_length, C08_length_is_body_length,
   (and -1 exactly while nothing is committed)                   C08_length_mid
  "a request whose handlers write nothing still has its          C08_empty_chain, C08_empty_request,
   header committed exactly once when the chain ends"            C08_request_one_commit
  panics (dispatch.go OnPanic path)                              C08_onpanic_commits, C08_no_panic_commits,
                                                                 C08_request_escaped

  NOT proved here (stated where it is used):
  * that the Go code is this model — sampled by the `writer` correspondence engine;
  * `Hijack()` (sets length to 0 without a WriteHeader; the connection leaves HTTP) is outside the model;
  * an underlying writer that answers a NEGATIVE byte count (violates io.Writer) could make `length`
    return to -1; accepted counts are naturals here;
  * that header FIELDS set after the commit are not sent is net/http's behaviour, not rux's; the model
    tracks the Content-Type only because http.Redirect branches on it.
-/
namespace Rux
open Writer

/-- the whole log of the underlying writer, for every operation sequence: the single `WriteHeader`
    with the specified status, followed by exactly the writes and flushes in the order issued -/
theorem C08_log_exact (ct : Option Bytes) (ops : List Op) :
    (finish ct ops).log = .wh (specStatus ops) :: ioEvents ops := by
  rw [← statusFrom_zero]
  exact (finish_uncommitted ops (W.fresh ct) rfl).1

/-- exactly one `WriteHeader`, and it precedes every write and flush -/
theorem C08_one_commit (ct : Option Bytes) (ops : List Op) :
    ∃ code evs, (finish ct ops).log = .wh code :: evs ∧ evs.all (fun e => !e.isWH) = true :=
  ⟨specStatus ops, ioEvents ops, C08_log_exact ct ops, ioEvents_no_wh ops⟩

/-- the same as a count: one `WriteHeader` in the log, and it is the first event -/
theorem C08_one_commit_count (ct : Option Bytes) (ops : List Op) :
    ((finish ct ops).log.filter Ev.isWH).length = 1 ∧
    ((finish ct ops).log.head?.map Ev.isWH) = some true := by
  rw [C08_log_exact, List.filter_cons_of_pos rfl, filter_isWH_ioEvents]
  exact ⟨rfl, rfl⟩

/-- every `WriteHeader` the underlying writer sees carries the last positive code set before the first
    write or flush, 200 if there is none -/
theorem C08_status (ct : Option Bytes) (ops : List Op) (code : Int)
    (h : Ev.wh code ∈ (finish ct ops).log) : code = specStatus ops := by
  rw [C08_log_exact] at h
  rcases List.mem_cons.mp h with h | h
  · injection h
  · cases isWH_of_mem_ioEvents h

/-- no positive status before the first write/flush: 200 -/
theorem C08_status_default (ops : List Op)
    (h : ∀ o ∈ ops.takeWhile Op.notIO, o.posCode = none) : specStatus ops = 200 := by
  rw [specStatus, List.filterMap_eq_nil_iff.mpr h]
  rfl

/-- whatever follows the first write or flush — status settings included — does not change the code -/
theorem C08_status_fixed_at_first_io (pre post : List Op) (io : Op) (hio : io.isIO = true) :
    specStatus (pre ++ io :: post) = specStatus pre := by
  have hn : ¬ Op.notIO io = true := by simp [Op.notIO, hio]
  rw [specStatus, List.takeWhile_append, List.takeWhile_cons_of_neg hn, List.append_nil]
  -- the scan stops at `io`, or it has stopped inside `pre`
  split
  · next hall => rw [specStatus, (List.takeWhile_prefix _).eq_of_length hall]
  · rfl

/-- the body the client receives is the concatenation of the accepted prefixes of all writes, in order -/
theorem C08_body (ct : Option Bytes) (ops : List Op) :
    bodyOf (finish ct ops).log = specBody ops := by
  rw [C08_log_exact, ← bodyOf_ioEvents]
  rfl

/-- `Length()` at the end of the request = the number of bytes the underlying writer accepted -/
theorem C08_length (ct : Option Bytes) (ops : List Op) :
    (finish ct ops).length = specLength ops :=
  (finish_uncommitted ops (W.fresh ct) rfl).2

/-- with an underlying writer that respects io.Writer (`accepted ≤ len`), `Length()` is the length of
    the body that went out -/
theorem C08_length_is_body_length (ct : Option Bytes) (ops : List Op)
    (hok : ∀ o ∈ ops, o.accOk = true) :
    (finish ct ops).length = (bodyOf (finish ct ops).log).length := by
  rw [C08_length, C08_body, specBody, List.length_flatMap, specLength]
  congr 2
  exact List.map_congr_left fun o ho => accepted_of_accOk o (hok o ho)

/-- during the request: `Length()` is -1 exactly while no write/flush has happened, which is exactly
    while the underlying writer has received nothing; afterwards it is the accepted byte count and the
    log starts with the single `WriteHeader` -/
theorem C08_length_mid (ct : Option Bytes) (ops : List Op) :
    ((run (W.fresh ct) ops).length = -1 ↔ ops.any Op.isIO = false) ∧
    ((run (W.fresh ct) ops).length = -1 ↔ (run (W.fresh ct) ops).log = []) ∧
    ((run (W.fresh ct) ops).length ≠ -1 →
      (run (W.fresh ct) ops).length = specLength ops ∧
      (run (W.fresh ct) ops).log = .wh (specStatus ops) :: ioEvents ops) := by
  rw [← statusFrom_zero]
  obtain ⟨h0, h1⟩ := run_uncommitted ops (W.fresh ct) rfl
  cases hio : ops.any Op.isIO with
  | false =>
    obtain ⟨hl, hg, _⟩ := h0 hio
    exact ⟨⟨fun _ => rfl, fun _ => hl⟩, ⟨fun _ => hg, fun _ => hl⟩, fun h => absurd hl h⟩
  | true =>
    obtain ⟨hl, hg⟩ := h1 hio
    -- a byte count (`hl`) is not -1, and the log (`hg`) is not empty
    exact ⟨⟨fun h => (nomatch hl.symm.trans h), nofun⟩,
      ⟨fun h => (nomatch hl.symm.trans h), fun h => nomatch hg.symm.trans h⟩, fun _ => ⟨hl, hg⟩⟩

/-- handlers that never write or flush: the end of dispatch commits the header, once, and nothing else
    reaches the underlying writer -/
theorem C08_empty_chain (ct : Option Bytes) (ops : List Op) (h : ops.any Op.isIO = false) :
    (finish ct ops).log = [.wh (specStatus ops)] ∧ (finish ct ops).length = 0 := by
  obtain ⟨h1, h2⟩ := ioEvents_specLength_nonIO ops h
  rw [C08_log_exact, C08_length, h1, h2]
  exact ⟨rfl, rfl⟩

/-! ### the request level: handler chain, OnError, OnPanic -/

/-- a request that is not torn down by an escaping panic — normal end, or a panic recovered by the
    OnPanic handler — commits exactly once, first, with the specified status; body and `Length()`
    as specified.  `trace` is the sequence of operations the handlers' actions issued on the writer. -/
theorem C08_request_one_commit (c : Cfg) (prog : List (Site × Act))
    (h : (serve c prog).escaped = false) :
    (serve c prog).finish.log =
        .wh (specStatus (serve c prog).trace) :: ioEvents (serve c prog).trace ∧
    (ioEvents (serve c prog).trace).all (fun e => !e.isWH) = true ∧
    bodyOf (serve c prog).finish.log = specBody (serve c prog).trace ∧
    (serve c prog).finish.length = specLength (serve c prog).trace := by
  rw [Req.finish, h, if_neg Bool.false_ne_true, serve_trace]
  exact ⟨C08_log_exact _ _, ioEvents_no_wh _, C08_body _ _, C08_length _ _⟩

/-- when a panic does leave ServeHTTP (no OnPanic handler, or the OnPanic handler panicked), there is
    still never a second `WriteHeader`, and nothing precedes the first: the underlying writer has
    seen nothing at all, or the single commit followed by writes/flushes -/
theorem C08_request_escaped (c : Cfg) (prog : List (Site × Act))
    (h : (serve c prog).escaped = true) :
    ((serve c prog).finish.log = [] ∧ (serve c prog).finish.length = -1) ∨
    ((serve c prog).finish.log =
        .wh (specStatus (serve c prog).trace) :: ioEvents (serve c prog).trace ∧
     (serve c prog).finish.length = specLength (serve c prog).trace) := by
  rw [Req.finish, h, if_pos rfl, serve_trace]
  obtain ⟨-, h1, h2⟩ := C08_length_mid c.ct (serve c prog).trace
  by_cases hl : (run (W.fresh c.ct) (serve c prog).trace).length = -1
  · exact .inl ⟨h1.mp hl, hl⟩
  · exact .inr (h2 hl).symm

/-- with an OnPanic handler that does not panic itself, no panic escapes: the request commits -/
theorem C08_onpanic_commits (c : Cfg) (prog : List (Site × Act)) (hp : c.hasOnPanic = true)
    (hq : ∀ sa ∈ prog, sa.1 = Site.onPanic → actPanics sa.2 = false) :
    (serve c prog).escaped = false := by
  refine acts_escaped c prog rfl fun sa h => ?_
  by_cases hs : sa.1 = Site.onPanic
  · simp [hq sa h hs]
  · simp [hs, hp]

/-- without any panicking action nothing escapes: the request commits -/
theorem C08_no_panic_commits (c : Cfg) (prog : List (Site × Act))
    (hq : ∀ sa ∈ prog, actPanics sa.2 = false) :
    (serve c prog).escaped = false :=
  acts_escaped c prog rfl fun sa h => by simp [hq sa h]

/-- the empty chain / handlers that do nothing: one `WriteHeader(200)` at the end, nothing else -/
theorem C08_empty_request (c : Cfg) :
    (serve c []).finish.log = [.wh 200] ∧ (serve c []).finish.length = 0 :=
  ⟨rfl, rfl⟩

/-! ### non-vacuity: concrete sequences that hit the interesting branches -/

-- F9's input: status, flush, status again, write — the flush commits 201, the 202 is not sent
example : (finish none [.setStatus 201, .flush, .setStatus 202, .write [120] 1 false]).log =
    [.wh 201, .fl, .w [120] 1 false] := by decide

-- status ≤ 0 ignored, last positive wins, zero-length write commits, short + failing write counted
example : (finish none [.setStatus 404, .setStatus 0, .setStatus (-5), .setStatus 503, .write [] 0 false,
      .setStatus 200, .write [1, 2, 3] 2 true, .flush]) =
    ⟨200, 2, none, some none, [.wh 503, .w [] 0 false, .w [1, 2, 3] 2 true, .fl]⟩ := by decide

example : specStatus [.setStatus 404, .setStatus 0, .setStatus 503, .write [] 0 false, .setStatus 200] = 503 := by
  decide

-- a request: handler 0 sets 201 and aborts with a message before Next (handler 1 is cut off),
-- then writes after Next; WriteBytes fails -> panic -> OnPanic sets 500 (too late: 201 is out)
def c08DemoCfg : Cfg := ⟨3, .get, true, false, none⟩
def c08DemoProg : List (Site × Act) :=
  [(.chain 0, .op (.setStatus 201)),
   (.chain 0, .abort 403 (some ([110, 111], 3, false))),
   (.chain 1, .op (.setStatus 202)),
   (.chain 4, .writeBytes [97, 98] 1 true),
   (.chain 4, .op .flush),
   (.onPanic, .op (.setStatus 500))]

example : (serve c08DemoCfg c08DemoProg).escaped = false := by decide
example : (serve c08DemoCfg c08DemoProg).finish.log =
    [.wh 403, .w [110, 111, 10] 3 false, .w [97, 98] 1 true] := by decide
example : (serve c08DemoCfg c08DemoProg).finish.length = 4 := by decide
-- the same program without an OnPanic handler: the panic escapes, still one WriteHeader
example : (serve { c08DemoCfg with hasOnPanic := false } c08DemoProg).escaped = true := by decide
-- a panic before anything was written and no OnPanic: nothing reaches the underlying writer
example : (serve { c08DemoCfg with hasOnPanic := false } [(.chain 0, .panic)]).finish.log = [] := by decide
-- hypotheses of C08_onpanic_commits are satisfiable with a panicking program
example : c08DemoCfg.hasOnPanic = true ∧
    ∀ sa ∈ c08DemoProg, sa.1 = Site.onPanic → actPanics sa.2 = false := by decide

end Rux
