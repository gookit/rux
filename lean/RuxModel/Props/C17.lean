import RuxModel.Lemmas.StaticFlow
/-
  C17 — Static file handlers never serve anything outside their root.

  Statement (properties.jsonl): "StaticDir, StaticFiles, StaticFS and StaticFile only ever return bytes
  of files located under the configured root (or of the single configured file): no request path - with
  dot-dot segments, repeated or encoded slashes or absolute components - yields content from outside it.
  StaticFiles additionally serves only request paths that end in one of the allowed extensions."

  The theorems are about the model of Model/Clean.lean: `serve look m q` is the answer of a router with
  the route(s) of ONE Static* call (`m : Mount`) to the GET request `q` (`URL.Path`, `URL.RawPath`,
  `URL.EscapedPath()` as the server's parser produced them — all three are arbitrary byte strings in the
  theorems), on a file system `look` (arbitrary).  `Resp.opened` lists the full paths handed to `os.Open`,
  `Resp.served` what a 200 answer carries.  The predicates `AllProper` and `Under` of the statements are defined at
  the top of Lemmas/Clean.lean.

  clause                                                            theorem
  ------------------------------------------------------------------------------------------------------
  path.Clean on a rooted path: rooted, no "", ".", ".." element,    C17_clean_rooted
    idempotent
  no request yields content from outside the root                   C17_confined (every root that is an
    (StaticDir / StaticFS over http.Dir / StaticFiles)                absolute path), C17_confined_clean_root
                                                                      (the literal `root ++ "/e1/e2…"` form),
                                                                      C17_under_lexical (what that excludes:
                                                                      the parent, the sibling "root-private")
  what is served was opened (so it is under the root, too)          second half of C17_confined
  the extension survives Clean                                      C17_ext, C17_last_segment (exact condition)
  StaticFiles: a served file has an allowed extension, nothing      C17_ext_served
    is listed
  StaticFiles: a request whose normalised path does not end in      C17_ext_required
    an allowed extension is answered 404 and opens nothing
  StaticFile only ever opens the configured path                    C17_single_file, C17_single_file_regular

  NOT proved (trusted, see the `level_note` of C17 in checks.json): that `look`/the OS resolves a lexical
  path without leaving the root (symlinks, mount points), the bytes net/http sends for an opened file
  (serveContent), the URL parser (how a request line becomes URL.Path/RawPath), the regexp engine (the route
  `{file:.+}` is modelled as "non-empty, no newline", its extension part as a suffix test), StaticFS over a
  FileSystem other than http.Dir, roots that are relative paths.  The correspondence of the model with the
  real handlers and with path.Clean is sampled by the engines `static` and `clean`.
-/
namespace Rux
open Clean Bytes

/-- `path.Clean("/" ++ s)`, for every byte string `s`: begins with '/', is "/" or consists of proper
    elements only (non-empty, no "." or "..", no '/' inside), and cleaning it again — as `Clean("/" ++ c)`
    (http.Dir.Open) or as `Clean(c)` — changes nothing. -/
theorem C17_clean_rooted (s : Bytes) :
    (cleanRooted s).head? = some slash ∧
    (cleanRooted s = [slash] ∨ ∀ seg ∈ splitOnByte slash ((cleanRooted s).drop 1), Proper seg) ∧
    cleanRooted (cleanRooted s) = cleanRooted s ∧
    cleanAbs (cleanRooted s) = cleanRooted s := by
  have hp := cleanSegs_proper s
  refine ⟨?_, ?_, ?_, ?_⟩
  · unfold cleanRooted; rw [render_eq_cons]; rfl
  · unfold cleanRooted
    cases hc : cleanSegs s with
    | nil => left; rfl
    | cons a t =>
      right
      rw [hc] at hp
      obtain ⟨ha, ht⟩ := List.forall_mem_cons.1 hp
      show ∀ seg ∈ splitOnByte slash (a ++ renderRel t), Proper seg
      rw [split_renderRel a t ha.2.2.2 fun x m => (ht x m).2.2.2]
      exact hp
  · unfold cleanRooted
    rw [cleanSegs_render hp]
  · unfold cleanAbs cleanRooted
    rw [cleanSegs_render_drop hp]

example : cleanRooted (b!"a/../../www-private/./secret.css") = b!"/www-private/secret.css" := by decide
example : cleanRooted (b!"css//..\\..//a.css/") = b!"/css/..\\../a.css" := by decide
example : cleanRooted (b!"../..") = b!"/" := by decide

/-! ### confinement -/

/-- StaticDir, StaticFS (over http.Dir) and StaticFiles with ANY prefix, extension list,
    UseEncodedPath and StrictLastSlash setting, on ANY file system, for EVERY request: each path handed to `os.Open` is
    `Clean(root)` followed by zero or more proper elements, and whatever a 200 answer carries (a file's
    bytes or a directory listing) is one of the opened paths.  `root` is any absolute path. -/
theorem C17_confined (look : Bytes → Node) (m : Mount) (q : Req) (r' : Bytes)
    (hk : m.kind ≠ .file) (hroot : m.target = slash :: r') :
    (∀ p ∈ (serve look m q).opened, Under m.target p) ∧
    (∀ k, (serve look m q).served = .file k ∨ (serve look m q).served = .listing k →
          k ∈ (serve look m q).opened) := by
  rcases serve_cases look m q hk with ⟨_, h2, h3⟩ | ⟨u, hu⟩
  · rw [h2, h3]; simp
  · rw [hu, hroot]
    exact fileServer_opened look r' u

/-- the same for a clean root "/e1/…/en" (n ≥ 1), in literal form: every opened path is the root itself
    or the root followed by "/x1/x2…" with proper elements -/
theorem C17_confined_clean_root (look : Bytes → Node) (m : Mount) (q : Req) (r : List Bytes)
    (hk : m.kind ≠ .file) (hr : r ≠ []) (hp : AllProper r) (hroot : m.target = render r) :
    ∀ p ∈ (serve look m q).opened, ∃ l, AllProper l ∧ p = m.target ++ renderRel l := by
  intro p hmem
  have h := (C17_confined look m q _ hk (hroot.trans (render_eq_cons r))).1 p hmem
  rw [hroot] at h ⊢
  exact (under_clean_root r hr hp p).mp h

/-- what "the root followed by proper elements" excludes: such a path is the root or begins with
    `root ++ "/"` — never the parent, never a sibling whose name merely begins with the root's name — and
    none of the elements after the root is ".." -/
theorem C17_under_lexical (root : Bytes) (l : List Bytes) (hl : AllProper l) :
    (root ++ renderRel l = root ∨ hasPrefix (root ++ renderRel l) (root ++ [slash]) = true) ∧
    (∀ seg ∈ l, seg ≠ [dot, dot]) := by
  refine ⟨?_, fun seg m => (hl seg m).2.2.1⟩
  cases l with
  | nil => left; simp [renderRel]
  | cons a t =>
    right
    rw [hasPrefix_iff]
    exact ⟨a ++ renderRel t, by rw [renderRel_cons]; simp⟩

/-- non-vacuity: the hypotheses of the confinement theorems hold for the sandbox of the `static` engine,
    and the attack paths resolve inside it -/
example :
    let m : Mount := { kind := .dir, enc := false, pfx := b!"/static", exts := [],
                       target := b!"/srv/box/www" }
    let look : Bytes → Node := fun p =>
      if p = b!"/srv/box/www-private/secret.css" ∨ p = b!"/srv/box/www/a.css" then .file
      else if p = b!"/srv/box/www" then .dir else .none
    (serve look m { path := b!"/static/../www-private/secret.css", raw := [], esc := [] }).opened
        = [b!"/srv/box/www/www-private/secret.css"] ∧
    (serve look m { path := b!"/static/css/..//a.css", raw := [], esc := [] }).served
        = .file (b!"/srv/box/www/a.css") := by decide +kernel

example : AllProper [b!"srv", b!"box", b!"www"] ∧
    render [b!"srv", b!"box", b!"www"] = b!"/srv/box/www" := by
  unfold AllProper
  decide

/-! ### extensions -/

/-- Clean keeps the last element when it is a proper one (the exact condition: the text after the last
    slash is not "", "." or "..") -/
theorem C17_last_segment (s z : Bytes) (init : List Bytes)
    (h : splitOnByte slash s = init ++ [z]) (hz : Proper z) :
    ∃ y, cleanRooted s = y ++ slash :: z := by
  obtain ⟨A, hA⟩ := cleanSegs_last s z hz init h
  exact ⟨renderRel A, by unfold cleanRooted; rw [hA, render_append_singleton]⟩

/-- a name that ends in "." ++ e still does after Clean — for every `e` that is not empty, not "." and
    contains no slash -/
theorem C17_ext (x e : Bytes) (he : e ≠ []) (hd : e ≠ [dot]) (hs : slash ∉ e) :
    ∃ y, cleanRooted (x ++ dot :: e) = y ++ dot :: e := by
  obtain ⟨A, qq, hA⟩ := cleanSegs_ext x e he hd hs
  exact ⟨renderRel A ++ slash :: qq, by unfold cleanRooted; rw [hA, render_append_singleton]; simp⟩

/-- the condition `e ≠ "."` is needed: "a/" ++ "." ++ "." is "a/..", which cleans to "/" -/
example : cleanRooted (b!"a/" ++ dot :: [dot]) = b!"/" := by decide

/-- StaticFiles: whatever file a request is answered with has a name ending in "." ++ e for an allowed
    `e`, and no directory is ever listed.  Every prefix, every request, every file system; the extension
    alternatives are non-empty, not "." and without '/' (the engine uses alphanumeric ones). -/
theorem C17_ext_served (look : Bytes → Node) (m : Mount) (q : Req) (r' : Bytes)
    (hk : m.kind = .files) (hroot : m.target = slash :: r')
    (hexts : ∀ e ∈ m.exts, e ≠ [] ∧ e ≠ [dot] ∧ slash ∉ e) :
    (∀ k, (serve look m q).served = .file k → ∃ e ∈ m.exts, ∃ y, k = y ++ dot :: e) ∧
    (∀ k, (serve look m q).served ≠ .listing k) := by
  rcases serve_files_cases look m q hk with h | ⟨x, e, hx, hmem, _, h⟩
  · rw [h]; simp
  · obtain ⟨he, hd, hs⟩ := hexts e hmem
    obtain ⟨h1, h2⟩ := fileServer_ext look r' x e hx he hd hs
    rw [h, hroot]
    exact ⟨fun k hk => ⟨e, hmem, h1 k hk⟩, h2⟩

/-- StaticFiles: a request whose normalised path (the router's formatPath: white space and — unless
    StrictLastSlash — trailing slashes trimmed) does not end in "." ++ e for an allowed `e` is answered 404 and opens nothing -/
theorem C17_ext_required (look : Bytes → Node) (m : Mount) (q : Req) (hk : m.kind = .files)
    (h : ∀ e ∈ m.exts, hasSuffix (formatPath m.strict (if m.enc then q.esc else q.path)) (dot :: e) = false) :
    (serve look m q).status = 404 ∧ (serve look m q).opened = [] ∧ (serve look m q).served = .nothing := by
  rcases serve_files_cases look m q hk with h' | ⟨x, e, _, hmem, hp, _⟩
  · rw [h']; simp
  · have := h e hmem
    rw [hp, (hasSuffix_iff _ _).mpr ⟨routeStatic m.pfx ++ x, by simp⟩] at this
    cases this

/-- non-vacuity: an allowed extension is served, a disallowed one and a traversal are not -/
example :
    let m : Mount := { kind := .files, enc := false, pfx := b!"/assets", exts := [b!"css", b!"js"],
                       target := b!"/srv/box/www" }
    let look : Bytes → Node := fun p =>
      if p = b!"/srv/box/secret.css" ∨ p = b!"/srv/box/www/a.css" ∨ p = b!"/srv/box/www/nodejs" then .file
      else .none
    (serve look m { path := b!"/assets/x/../a.css ", raw := [], esc := [] }).served = .file (b!"/srv/box/www/a.css") ∧
    (serve look m { path := b!"/assets/nodejs", raw := [], esc := [] }).status = 404 ∧
    (serve look m { path := b!"/assets/../secret.css", raw := [], esc := [] }).opened = [b!"/srv/box/www/secret.css"] := by
  decide +kernel

/-! ### the single file -/

/-- StaticFile(path, F) for a clean absolute F = "/e1/…/en" (n ≥ 1): for every request and file system,
    the only paths opened are F and — when F turns out to be a directory — F ++ "/index.html"; what is
    served was opened. -/
theorem C17_single_file (look : Bytes → Node) (m : Mount) (q : Req) (init : List Bytes) (z : Bytes)
    (hk : m.kind = .file) (hi : AllProper init) (hz : Proper z) (hF : m.target = render (init ++ [z])) :
    (∀ p ∈ (serve look m q).opened, p = m.target ∨ p = m.target ++ indexPage) ∧
    (∀ k, (serve look m q).served = .file k ∨ (serve look m q).served = .listing k →
          k ∈ (serve look m q).opened) := by
  rcases serve_file_cases look m q hk with h | h
  · rw [h]; simp
  · rw [h, hF]; exact httpServeFile_single look q.path init z hi hz

/-- … and when F is a regular file, nothing but F is opened, nothing but F is served, nothing is listed -/
theorem C17_single_file_regular (look : Bytes → Node) (m : Mount) (q : Req) (init : List Bytes) (z : Bytes)
    (hk : m.kind = .file) (hi : AllProper init) (hz : Proper z) (hF : m.target = render (init ++ [z]))
    (hfile : look m.target = .file) :
    (∀ p ∈ (serve look m q).opened, p = m.target) ∧
    (∀ k, (serve look m q).served = .file k → k = m.target) ∧
    (∀ k, (serve look m q).served ≠ .listing k) := by
  rcases serve_file_cases look m q hk with h | h
  · rw [h]; simp
  · rw [hF] at hfile
    rw [h, hF]; exact httpServeFile_regular look q.path init z hi hz hfile

/-- non-vacuity: the configured file is served; a request with ".." is refused before anything is opened -/
example :
    let m : Mount := { kind := .file, enc := false, pfx := b!"/one.js", exts := [],
                       target := b!"/srv/box/www/a.css" }
    let look : Bytes → Node := fun p => if p = b!"/srv/box/www/a.css" then .file else .none
    (serve look m { path := b!"/one.js/", raw := [], esc := [] }).served = .file (b!"/srv/box/www/a.css") ∧
    (serve look m { path := b!"/one.js/..", raw := [], esc := [] }).opened = [] := by decide

end Rux
