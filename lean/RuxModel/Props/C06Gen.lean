import RuxModel.Tie.Quick
import RuxModel.Props.C06
import RuxModel.Lemmas.Bytes
/-
  C06 on the code GENERATED from parse_match.go `Router.QuickMatch` (Generated/Code.lean, regenerated by
  go/go2lean on every check run).  The generated definition is the decision list of the Go function —
  intercept path, normalisation, direct match, HEAD→GET, fallback route, method-not-allowed, not found — over
  abstract lookups; instantiated with the model's lookups (`Tie.envM`: `matchM`, `findAllowed`, static table) it
  answers exactly the stateless specification `quickPure`, for single requests and for histories.
-/
namespace Rux
open Tie

/-- what a caller observes of Go's `(route, ps, alm)` -/
def genObs : Option (RouteM × Bool) × Option Params × List Bytes → Obs
  | (some (r, _), ps, _) => .route r (ps.getD [])
  | (none, _, []) => .notFound
  | (none, _, ms) => .allowed ms

/-- `ord`: the order in which Go visited the allowed methods -/
def obsOrd (ord : List Bytes → List Bytes) : Obs → Obs
  | .allowed ms => .allowed (ord ms)
  | o => o

/-- `quickMatch` answers "not found", never an empty list of allowed methods -/
theorem quickMatch_allowed_ne (rt : RouterM) (m p : Bytes) (ms : List Bytes)
    (h : (quickMatch rt m p).1 = .allowed ms) : ms ≠ [] := by
  have tail : ∀ rt' q, (tailMatch rt' m q).1 = .allowed ms → ms ≠ [] := by
    intro rt' q
    fun_cases tailMatch rt' m q
    · exact nofun
    · exact nofun
    · rename_i hne
      intro h; cases h
      exact fun he => hne (by rw [he]; rfl)
    · exact nofun
  -- `quickMatch` answers a route, or what `tailMatch` answers (directly or after the HEAD→GET attempt)
  revert h
  fun_cases quickMatch rt m p
  · exact nofun
  · fun_cases headMatch _ _ _
    · exact nofun
    · exact tail _ _
    · exact tail _ _

theorem genObs_absResO (ord : List Bytes → List Bytes) (hord : ∀ l, (ord l).length = l.length)
    (rt : RouterM) (m p : Bytes) :
    genObs (absResO ord (quickMatch rt m p).1) = obsOrd ord (quickMatch rt m p).1.obs := by
  cases hr : (quickMatch rt m p).1 with
  | allowed ms =>
    have hne : (ord ms).length ≠ 0 := by
      rw [hord]; exact fun h => quickMatch_allowed_ne rt m p ms hr (List.length_eq_zero_iff.mp h)
    cases ho : ord ms with
    | nil => rw [ho] at hne; exact absurd rfl hne
    | cons a t => simp [absResO, genObs, MatchResult.obs, obsOrd, ho]
  | route r ps c => rfl
  | fallback r => rfl
  | notFound => rfl

theorem genObs_absRes (rt : RouterM) (m p : Bytes) :
    genObs (absRes (quickMatch rt m p).1) = (quickMatch rt m p).1.obs := by
  rw [← absResO_id, genObs_absResO id (fun _ => rfl)]
  cases (quickMatch rt m p).1.obs <;> rfl

/-- one request: the generated `QuickMatch` never panics and observes exactly the fixed resolution order
    (`quickPure`: direct match, HEAD→GET, `/*` of the method, 405 with exactly the other matching methods, 404),
    and leaves the router with the same tables and a coherent cache -/
theorem C06_gen_order (g : Gen.Router) (rt : RouterM) (h : OptsRel g rt.opts) (m p : Bytes)
    (hm : (0x2F : Nat) ∉ m) (hc : CacheOK rt) :
    ∃ rt' res, Gen.Router.QuickMatch g m p envM rt = .ok (rt', res) ∧
      genObs res = quickPure rt m p ∧ SameTables rt rt' ∧ CacheOK rt' := by
  refine ⟨_, _, tie_QuickMatch g rt h m p, ?_, (quickMatch_spec rt m p hm hc).2.1, (quickMatch_spec rt m p hm hc).2.2⟩
  rw [genObs_absRes]; exact (quickMatch_spec rt m p hm hc).1

/-- histories: serving any sequence of requests with the generated `QuickMatch`, threading the router state -/
def genRunQuick (g : Gen.Router) (rt : RouterM) : List (Bytes × Bytes) → List (Option Obs)
  | [] => []
  | mp :: h =>
    match Gen.Router.QuickMatch g mp.1 mp.2 envM rt with
    | .ok (rt', res) => some (genObs res) :: genRunQuick g rt' h
    | .error _ => [none]

theorem C06_gen_history (g : Gen.Router) (o : Opts) (rs : List RouteM) (hg : OptsRel g o)
    (h : List (Bytes × Bytes)) (hm : ∀ mp ∈ h, (0x2F : Nat) ∉ mp.1) :
    genRunQuick g (build o rs) h = h.map fun mp => some (quickPure (build o rs) mp.1 mp.2) := by
  have key : ∀ (h : List (Bytes × Bytes)) (rt : RouterM), OptsRel g rt.opts →
      genRunQuick g rt h = (runQuick rt h).map some := by
    intro h
    induction h with
    | nil => intro _ _; rfl
    | cons mp h ih =>
      intro rt hrel
      simp only [genRunQuick, runQuick, tie_QuickMatch g rt hrel mp.1 mp.2, List.map_cons, genObs_absRes]
      congr 1
      exact ih _ (by rw [(quickMatch_tables rt mp.1 mp.2).opts]; exact hrel)
  rw [key h (build o rs) (by rw [build_opts]; exact hg), C06_order o rs h hm, List.map_map]
  rfl

/-! ### the built-in fallback handlers (dispatch.go `internal404Handler` / `internal405Handler` as generated) -/

def c06OPTIONS : Bytes := [0x4F, 0x50, 0x54, 0x49, 0x4F, 0x4E, 0x53]
def c06Allow : Bytes := [0x41, 0x6C, 0x6C, 0x6F, 0x77]
def c06msg405 : Bytes := [0x4D, 0x65, 0x74, 0x68, 0x6F, 0x64, 0x20, 0x6E, 0x6F, 0x74, 0x20, 0x61, 0x6C, 0x6C, 0x6F, 0x77, 0x65, 0x64]
def c06msg404 : Bytes := [0x34, 0x30, 0x34, 0x20, 0x70, 0x61, 0x67, 0x65, 0x20, 0x6E, 0x6F, 0x74, 0x20, 0x66, 0x6F, 0x75, 0x6E, 0x64]
#guard c06OPTIONS = Bytes.ofString "OPTIONS" && c06Allow = Bytes.ofString "Allow" && c06msg405 = Bytes.ofString "Method not allowed" &&
  c06msg404 = Bytes.ofString "404 page not found"

/-- **C06 (by default 405 with a sorted Allow header, 200 for OPTIONS)**: the default not-allowed handler first sets
    `Allow` to the SORTED list of the methods the dispatcher stored, joined by ", "; then an OPTIONS request gets status
    200 and EVERY other request method — whether rux can register it or not — the 405 error reply -/
theorem C06_gen_default405 (c : List GoRt.REv) (stored : List Bytes) (method : Bytes) (sortS : List Bytes → List Bytes) :
    Gen.internal405Handler c stored method sortS =
      c ++ [GoRt.REv.setHeader c06Allow (Bytes.join [0x2C, 0x20] (sortS stored))] ++
        [if method = c06OPTIONS then GoRt.REv.setStatus 200 else GoRt.REv.httpError c06msg405 405] := by
  unfold Gen.internal405Handler
  rw [← c06OPTIONS, ← c06Allow, ← c06msg405]
  by_cases h : method = c06OPTIONS <;> simp [Id.run, pure, h]

/-- the default not-found handler is `http.NotFound`: the 404 error reply and nothing else -/
theorem C06_gen_default404 (c : List GoRt.REv) :
    Gen.internal404Handler c = c ++ [GoRt.REv.httpError c06msg404 404] := rfl

/-- **C06 (the public `Match`)**: `Router.Match` as generated is `QuickMatch` on the upper-cased method and the same path
    — the whole decision list (direct match, HEAD→GET, fallback route, 405 list, 404) and its cache effects are those of
    `QuickMatch`; the spelling of the method's letters does not matter (`get`, `Get`, `GET` give the same answer). -/
theorem C06_gen_match_upper {σ ρ π : Type} (r : Gen.Router) (m p : Bytes) (env : GoRt.QMEnv σ ρ π) (s : σ) :
    Gen.Router.Match r m p env s = Gen.Router.QuickMatch r (Bytes.toUpper m) p env s ∧
    Gen.Router.Match r (Bytes.toUpper m) p env s = Gen.Router.Match r m p env s := by
  have h : ∀ m', Gen.Router.Match r m' p env s = Gen.Router.QuickMatch r (Bytes.toUpper m') p env s := by
    intro m'
    unfold Gen.Router.Match
    simp only []
    cases Gen.Router.QuickMatch r (Bytes.toUpper m') p env s <;> rfl
  exact ⟨h m, by rw [h, h, Bytes.toUpper_idem]⟩

end Rux
