import RuxModel.Lemmas.Bind
/-
  C18 — Binding picks its source from the request and round-trips data.

  Property theorems only (model: Model/Bind.lean, helper lemmas: Lemmas/Bind.lean).
  Clauses of the statement and the theorems that cover them:

  (a) "Automatic binding selects its source solely from the request: the query string for methods without a
      body (anything but POST, PUT, PATCH), otherwise url-encoded form, multipart form, JSON or XML according
      to the Content-Type, and an error for any other type."
        `C18_source`                 the decision table of `binding.Auto`, for ALL method byte strings and ALL
                                     Content-Type byte strings (substring tests on the raw header, in order)
        `C18_source_by_media_type`   for a header `mt ++ params` whose parameter part starts with `;`/blank and
                                     contains none of the four markers, the source depends on `mt` alone
        `C18_source_lowercase_types` the five documented lower-case media types, with any such parameters
        examples                     the EXCLUDED headers are real: `multipart/mixed; boundary=a/json` is bound
                                     as JSON, `text/plain; x=/xml` as XML, `Application/JSON` is unsupported
        `C18_auto_ok_iff`            a successful `Auto` is exactly: the selected source was read without error
                                     (form: `r.PostForm`, i.e. the body only; query: URL query, errors dropped),
                                     its decoder succeeded, and the validator (if any) accepted; an unsupported
                                     type never succeeds
  (b) "a successful bind implies that the struct passed validation whenever a validator is enabled"
        `C18_validated`              every entry point (Auto, Form, Query, Header, JSON, XML binders — the
                                     `Context` shortcuts are these), every decoder path incl. empty input
        `C18_validator_off`          with `DisableValidator()` a bind succeeds iff reading+decoding succeeded
  (c) "malformed input yields an error"
        `C18_malformed_is_error`     whenever reading the selected source or its decoder fails, `Auto` fails
                                     (also part of `C18_auto_ok_iff`); a malformed URL query fails a form bind
  (d) "encoding … and binding it back yields an equal value" — the part that is rux + net/url:
        `C18_query_roundtrip`        `QueryUnescape (QueryEscape s) = s` for all byte strings;
                                     `ParseQuery` of encoded pairs returns exactly the pairs, no error;
                                     `ParseQuery (v.Encode())` = `v` as a map (key order, no empty entries)
        `C18_form_values_roundtrip`, `C18_query_values_roundtrip`
                                     the `url.Values` handed to the form/query decoder by `Auto` is exactly the
                                     canonical form of the `url.Values` that was encoded into the body / URL
        `C18_codec_roundtrip`        IF a codec round-trips a value and the validator accepts it, `Auto` on a
                                     JSON / XML request carrying its encoding returns exactly that value

  NOT proved (level "proof, partial"): `formam`, `encoding/json`, `encoding/xml`, `gookit/validate`,
  `mime.ParseMediaType` and `mime/multipart` are PARAMETERS of the model.  That their decoders invert their
  encoders on the representative struct types, and that they return errors instead of panicking on arbitrary
  bytes ("never a panic"), is only SAMPLED by the `bind` engine (go/harness/engine_bind.go) — the model is
  total by construction, so it says nothing about panics inside third-party code.
-/
namespace Rux
open Rux.Bind
variable {Val ε : Type}

/-! ### (a) source selection -/

/-- the decision table of `binding.Auto`, for every method string and every Content-Type string -/
theorem C18_source (method ctype : Bytes) :
    (¬ (method = mPOST ∨ method = mPUT ∨ method = mPATCH) → autoSource method ctype = .query) ∧
    ((method = mPOST ∨ method = mPUT ∨ method = mPATCH) →
      (markUrlenc <:+: ctype → autoSource method ctype = .form) ∧
      (¬ markUrlenc <:+: ctype → markFormData <:+: ctype → autoSource method ctype = .multipart) ∧
      (¬ markUrlenc <:+: ctype → ¬ markFormData <:+: ctype → markJson <:+: ctype →
        autoSource method ctype = .json) ∧
      (¬ markUrlenc <:+: ctype → ¬ markFormData <:+: ctype → ¬ markJson <:+: ctype → markXml <:+: ctype →
        autoSource method ctype = .xml) ∧
      (¬ markUrlenc <:+: ctype → ¬ markFormData <:+: ctype → ¬ markJson <:+: ctype → ¬ markXml <:+: ctype →
        autoSource method ctype = .unsupported)) := by
  -- back to the Boolean tests of `autoSource`; each conjunct is then one path through its `if` cascade
  simp +contextual [← bodyMethod_iff, ← containsSub_iff, autoSource]

/-- parameters cannot change the source — PROVIDED the parameter part (`;…`, or blank then `;…`) contains
    none of the four markers `/x-www-form-urlencoded`, `/form-data`, `/json`, `/xml`.
    The proviso is necessary: see the examples below. -/
theorem C18_source_by_media_type (method mt params : Bytes)
    (hsep : ∀ c, params.head? = some c → c = 0x3B ∨ c = 0x20 ∨ c = 0x09)
    (hfree : ∀ mk ∈ markers, ¬ mk <:+: params) :
    autoSource method (mt ++ params) = autoSource method mt := by
  -- appending a marker-free tail changes no `containsSub` test
  have key : ∀ mk ∈ markers, containsSub mk (mt ++ params) = containsSub mk mt := by
    intro mk hmk
    rw [Bool.eq_iff_iff, containsSub_iff, containsSub_iff]
    refine ⟨fun h => ?_, fun h => h.trans (List.prefix_append mt params).isInfix⟩
    rcases List.infix_append_iff_ne_nil.mp h with h | h | ⟨l₁, l₂, -, hl₂, rfl, -, t, rfl⟩
    · exact h
    · exact absurd h (hfree mk hmk)
    · -- the marker would end with a non-empty prefix `l₂` of `params`, but no marker contains `;`, blank or tab
      have nosep : ∀ mk ∈ markers, ∀ c ∈ [0x3B, 0x20, 0x09], c ∉ mk := by decide
      obtain ⟨c, l, rfl⟩ := List.exists_cons_of_ne_nil hl₂
      exact absurd (by simp) (nosep _ hmk c (by simpa using hsep c rfl))
  simp only [markers, List.forall_mem_cons] at key
  simp only [autoSource, key]

/-- the documented lower-case media types select the documented source, whatever marker-free parameters
    follow, for each of POST, PUT, PATCH; every other method string reads the query -/
theorem C18_source_lowercase_types (method params : Bytes)
    (hsep : ∀ c, params.head? = some c → c = 0x3B ∨ c = 0x20 ∨ c = 0x09)
    (hfree : ∀ mk ∈ markers, ¬ mk <:+: params) :
    let body := method = mPOST ∨ method = mPUT ∨ method = mPATCH
    (¬ body → ∀ ct, autoSource method ct = .query) ∧
    (body →
      autoSource method (mtUrlenc ++ params) = .form ∧
      autoSource method (mtMultipart ++ params) = .multipart ∧
      autoSource method (mtJson ++ params) = .json ∧
      autoSource method (mtXmlApp ++ params) = .xml ∧
      autoSource method (mtXmlText ++ params) = .xml ∧
      autoSource method (mtPlain ++ params) = .unsupported ∧
      autoSource method params = .unsupported) := by
  refine ⟨fun h ct => (C18_source method ct).1 h, fun h => ?_⟩
  -- `autoSource` reads only `bodyMethod` of the method, so POST stands for all three
  have hm : ∀ mt, autoSource method (mt ++ params) = autoSource mPOST mt := fun mt => by
    rw [C18_source_by_media_type method mt params hsep hfree]
    simp only [autoSource, (bodyMethod_iff method).mpr h]; rfl
  have h0 := hm []
  rw [List.nil_append] at h0
  simp only [hm, h0]
  decide

/-- the proviso of `C18_source_by_media_type` is satisfiable: an ordinary charset parameter -/
example : (∀ c, paramsCharset.head? = some c → c = 0x3B ∨ c = 0x20 ∨ c = 0x09) ∧
    (∀ mk ∈ markers, ¬ mk <:+: paramsCharset) := by
  constructor
  · rintro c ⟨⟩; exact .inl rfl
  · simp only [← containsSub_iff]; decide

/-- … and necessary: `POST`, `multipart/mixed; boundary=a/json` is bound as JSON although `multipart/mixed`
    alone is unsupported (the substring test looks at the whole raw header) -/
example : autoSource mPOST (mtMixed ++ paramsBoundaryJson) = .json ∧ autoSource mPOST mtMixed = .unsupported := by
  decide

/-- `text/plain; x=/xml` → XML; upper case `Application/JSON` → unsupported; `post` (lower case) → query;
    a JSON type whose parameters mention `/x-www-form-urlencoded` → form (the earlier test wins) -/
example : autoSource mPOST (mtPlain ++ paramsSlashXml) = .xml ∧
    autoSource mPOST mtJsonUpper = .unsupported ∧
    autoSource methodPostLower mtJson = .query ∧
    autoSource mPUT (mtJson ++ paramsUrlencMarker) = .form := by
  decide

/-! ### (a)+(c) what a successful `Auto` means -/

/-- `Auto` succeeds with `v` exactly when the selected source was read without error, its decoder produced
    `v`, and the validator — if one is installed — accepted `v`.  (`AutoDecoded`, Lemmas/Bind.lean: query →
    `decodeValues query (r.URL.Query())`; form → `ParseForm` had no error and `decodeValues form r.PostForm`;
    multipart → `ParseMultipartForm` had no error and `decodeValues form r.PostForm`; json/xml → the body
    decoder; unsupported → never.) -/
theorem C18_auto_ok_iff (c : Codecs Val ε) (r : Request ε) (v : Val) :
    auto c r = .ok v ↔ AutoDecoded c r v ∧ Passes c v := by
  unfold auto AutoDecoded
  cases autoSource r.method r.ctype <;> simp only []
  · exact decodeUrlValues_ok_iff
  · cases (parseForm r).err <;> simp [decodeUrlValues_ok_iff]
  · cases parseMultipart r <;> simp [decodeUrlValues_ok_iff]
  · exact bindJSON_ok_iff
  · exact bindXML_ok_iff
  · simp

/-- malformed input is an error: if the selected source cannot be read or decoded to any value, `Auto`
    returns an error; in particular an unsupported type, and a form request whose body or URL query has a bad
    escape (`ParseForm` error), always fail -/
theorem C18_malformed_is_error (c : Codecs Val ε) (r : Request ε) :
    ((∀ v, ¬ AutoDecoded c r v) → ∃ e, auto c r = .error e) ∧
    (autoSource r.method r.ctype = .unsupported → ∃ e, auto c r = .error e) ∧
    (autoSource r.method r.ctype = .form → (parseQuery r.rawQuery).2 = true → ∃ e, auto c r = .error e) ∧
    (autoSource r.method r.ctype = .form → r.mclass = .urlenc → (parseQuery r.body).2 = true →
      ∃ e, auto c r = .error e) := by
  have main : (∀ v, ¬ AutoDecoded c r v) → ∃ e, auto c r = .error e := by
    intro h
    cases hr : auto c r with
    | error e => exact ⟨e, rfl⟩
    | ok v => exact absurd ((C18_auto_ok_iff c r v).mp hr).1 (h v)
  have form : autoSource r.method r.ctype = .form → (parseForm r).err ≠ none → ∀ v, ¬ AutoDecoded c r v := by
    intro hs he v hv
    simp only [AutoDecoded, hs] at hv
    exact he hv.1
  refine ⟨main, fun hs => main ?_, fun hs hq => main (form hs ?_), fun hs hm hq => main (form hs ?_)⟩
  · intro v hv; simp [AutoDecoded, hs] at hv
  · simp only [parseForm, hq]
    split <;> simp
  · simp [parseForm, bodyMethod_of_source (by rw [hs]; decide), hm, hq]

/-! ### (b) validation -/

/-- a successful bind through ANY entry point implies the installed validator accepted the value -/
theorem C18_validated (c : Codecs Val ε) (r : Request ε) (api : Api) (v : Val)
    (f : Val → Except ε Unit) (hval : c.validator = some f) (hok : bindWith c r api = .ok v) :
    f v = .ok () := by
  have : Passes c v := by
    cases api with
    | auto => exact ((C18_auto_ok_iff c r v).mp hok).2
    | form =>
      simp only [bindWith, formBind] at hok
      split at hok
      · cases hok
      · exact (decodeUrlValues_ok_iff.mp hok).2
    | query | header | json | xml => exact (thenValidate_ok_iff.mp hok).2
  exact this f hval

/-- with the validator disabled nothing but reading and decoding decides the outcome -/
theorem C18_validator_off (c : Codecs Val ε) (r : Request ε) (v : Val) (hoff : c.validator = none) :
    (auto c r = .ok v ↔ AutoDecoded c r v) ∧
    (bindJSON c r.body = .ok v ↔ c.decodeJSON r.body = .ok v) ∧
    (bindXML c r.body = .ok v ↔ c.decodeXML r.body = .ok v) := by
  have hp : Passes c v := fun f hf => by rw [hoff] at hf; cases hf
  exact ⟨(C18_auto_ok_iff c r v).trans (and_iff_left hp), bindJSON_ok_iff.trans (and_iff_left hp),
    bindXML_ok_iff.trans (and_iff_left hp)⟩

/-- non-vacuity of `C18_validated`: a request with NO values at all (POST, urlencoded, empty body) whose
    decoder happily produces the zero value is rejected by a validator that requires a non-empty value, and
    the same request binds when the value is present -/
example :
    auto (demoCodecs true) (demoRequest mPOST mtUrlenc [] []) = .error (.codec ()) ∧
    auto (demoCodecs true) (demoRequest mPOST mtUrlenc [] sampleVB) = .ok [0x42] ∧
    auto (demoCodecs false) (demoRequest mPOST mtUrlenc [] []) = .ok [] :=
  ⟨rfl, rfl, rfl⟩

/-! ### (d) round trips -/

/-- the percent-encoding codec: (1) `QueryUnescape ∘ QueryEscape = id` on all byte strings;
    (2) `ParseQuery` of any list of encoded pairs gives back exactly those pairs, in order, without error;
    (3) `ParseQuery (v.Encode())` is `v` as a map, for every `url.Values` `v`: no error, and every key has
    exactly the values it had (keys come out in sorted order, keys without values disappear) -/
theorem C18_query_roundtrip :
    (∀ s, IsBytes s → unescape (escape s) = some s) ∧
    (∀ ps : List (Bytes × Bytes), (∀ p ∈ ps, IsBytes p.1 ∧ IsBytes p.2) →
      parsePairs (encodePairs ps) = (ps, false)) ∧
    (∀ m : Vals, (keysOf m).Nodup → ValsBytes m →
      parseQuery (encode m) = (canon m, false) ∧ ∀ k, valsGet (canon m) k = valsGet m k) :=
  ⟨unescape_escape, parsePairs_encodePairs,
    fun _ hk hb => ⟨parseQuery_encode hk hb, valsGet_canon hk⟩⟩

/-- separators, `%`, `+`, blank, and non-ASCII bytes survive -/
example : escape sampleSeparators = sampleEscaped ∧ unescape sampleEscaped = some sampleSeparators := by
  decide

/-- url-encoded form: the decoder receives exactly the (canonical) values that were encoded into the body —
    whatever the URL query says, as long as it parses -/
theorem C18_form_values_roundtrip (c : Codecs Val ε) (r : Request ε) (m : Vals)
    (hk : (keysOf m).Nodup) (hb : ValsBytes m)
    (hsrc : autoSource r.method r.ctype = .form) (hmc : r.mclass = .urlenc)
    (hbody : r.body = encode m) (hq : (parseQuery r.rawQuery).2 = false) :
    auto c r = decodeUrlValues c .form (canon m) := by
  have hbm : bodyMethod r.method = true := bodyMethod_of_source (by rw [hsrc]; decide)
  simp only [auto, hsrc, parseForm, hbm, hmc, hbody, parseQuery_encode hk hb, hq, if_true]
  rfl

/-- query source: the decoder receives exactly the (canonical) values that were encoded into the URL -/
theorem C18_query_values_roundtrip (c : Codecs Val ε) (r : Request ε) (m : Vals)
    (hk : (keysOf m).Nodup) (hb : ValsBytes m)
    (hsrc : autoSource r.method r.ctype = .query) (hq : r.rawQuery = encode m) :
    auto c r = decodeUrlValues c .query (canon m) := by
  simp only [auto, hsrc, urlQuery, hq, parseQuery_encode hk hb]

/-- JSON / XML: if the codec inverts its encoder on `v` and the validator (if any) accepts `v`, then `Auto`
    on a request that carries the encoding and is dispatched to that codec returns exactly `v` -/
theorem C18_codec_roundtrip (c : Codecs Val ε) (r : Request ε) (v : Val) (hp : Passes c v) :
    (autoSource r.method r.ctype = .json → c.decodeJSON r.body = .ok v → auto c r = .ok v) ∧
    (autoSource r.method r.ctype = .xml → c.decodeXML r.body = .ok v → auto c r = .ok v) := by
  simp +contextual [C18_auto_ok_iff, AutoDecoded, hp]

/-- non-vacuity of the round-trip hypotheses: a two-key `url.Values` with separators in key and value, sent
    as a POST form, reaches the decoder in canonical form; the URL query (which names the same key) is NOT
    read -/
example :
    let m : Vals := [([0x76], [sampleValue]), ([0x71], [[0x31], [0x32]])]
    (keysOf m).Nodup ∧
    (parseForm (demoRequest mPOST mtUrlenc sampleVA (encode m))).postForm = canon m ∧
    canon m = [([0x71], [[0x31], [0x32]]), ([0x76], [sampleValue])] := by
  decide

end Rux
