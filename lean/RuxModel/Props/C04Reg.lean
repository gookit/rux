import RuxModel.Lemmas.Reg
/-
  C04 (registration half) — WHICH chain is assembled for a request.
  The onion half (how a chain runs: `C04_onion`) belongs to the chain model; the integrator merges
  this file with it into Props/C04.lean.

  Clause of the statement                                           theorem
  ---------------------------------------------------------------   -----------------------------
  global middleware in Use order, including those added after the   C04_chain_of_route (globals at
  route was registered; then group middleware outermost → inner-     request time = top-level Use
  most; then the route's own middleware; then the main handler       arguments of the program ++ later)
  not-found / method-not-allowed run the global middleware around    C04_fallback_chain
  the corresponding fallback handlers (no group / route middleware)
  NOT here: each handler at most once, reverse order after Next, a   chain model (other half)
  middleware that does not call Next — `C04_onion`

  `chain` (Model/Reg.lean) mirrors `handleHTTPRequest`: the chain is built WHEN THE REQUEST ARRIVES
  from the router's global list as it is then, the matched route's stored list and its main handler.
  Which route a request resolves to is the table model's business (C01/C06).
-/
namespace Rux
open Reg Reg.Spec

/-- For every registration program `prog` run on a fresh router and every later sequence of
    top-level `Use` calls: the routes are those of the reference semantics of `prog` alone (the later
    calls change no route), the global list at request time is every `Use` argument that stands
    outside all groups, in order, followed by the later ones, and the chain executed for a request
    that resolves to a registered route `r` is
      globals at request time ++ handlers stored in r ++ [main r]
    where (`mkRouteL`) the stored handlers are the levels of the enclosing groups from the outermost
    to the innermost — each the group's middleware followed by the `Use` calls made in that group
    before the route — followed by the route's own middleware in call order. -/
theorem C04_chain_of_route (cfg : Cfg) (hne : ∀ x, cfg.fmt x ≠ []) (d404 d405 : H)
    (prog : List Stmt) (later : List (List H)) (st' : RS)
    (h : execList cfg RS.init (prog ++ later.map Stmt.use) = .ok st') :
    st'.routes = (denoteList cfg LScope.init prog).1 ∧
    st'.globals = topUses prog ++ later.flatten ∧
    (∀ r, r ∈ st'.routes →
      chain d404 d405 st'.toScope (.found r) = (topUses prog ++ later.flatten) ++ r.handlers ++ [r.main]) ∧
    (∀ (ls : LScope) (d : RouteDef),
      (mkRouteL cfg ls d).handlers = ls.lv.reverse.flatten ++ d.pre.flatten ++ d.post.flatten ∧
      (mkRouteL cfg ls d).main = d.main) := by
  obtain ⟨hr, hg, _⟩ := execList_fresh hne prog later h
  exact ⟨hr, hg, fun r _ => hg ▸ rfl, fun ls d => ⟨rfl, rfl⟩⟩

/-- Requests that resolve to not-found / method-not-allowed run the global list at request time
    followed by the fallback handlers — the argument of the LAST `NotFound` / `NotAllowed` call
    anywhere in the program, or the built-in handler when that is empty — and nothing else: no group
    and no route middleware. -/
theorem C04_fallback_chain (cfg : Cfg) (hne : ∀ x, cfg.fmt x ≠ []) (d404 d405 : H)
    (prog : List Stmt) (later : List (List H)) (st' : RS)
    (h : execList cfg RS.init (prog ++ later.map Stmt.use) = .ok st') :
    chain d404 d405 st'.toScope .notFound =
      (topUses prog ++ later.flatten) ++ (if (lastNFList [] prog).length = 0 then [d404] else lastNFList [] prog) ∧
    chain d404 d405 st'.toScope .notAllowed =
      (topUses prog ++ later.flatten) ++ (if (lastNAList [] prog).length = 0 then [d405] else lastNAList [] prog) := by
  obtain ⟨_, hg, e1, e2⟩ := execList_fresh hne prog later h
  rw [← hg, ← e1, ← e2]
  exact ⟨rfl, rfl⟩

/-! ### non-vacuity -/

namespace C04ex
def g1 : Bytes := [47, 97]
def p1 : Bytes := [47, 120]
def rd (id : Nat) (post : List (List H)) : RouteDef :=
  { id := id, main := id, name := [], methods := [[71, 69, 84]], path := p1, pre := [], post := post }
/-- Use(1); Group("/a", { NotFound(8); Use(3); Group("/a", {GET /x [5]}, 4) }, 2); Use(6) — then, later, Use(7) -/
def prog : List Stmt :=
  [.use [1], .group g1 [2] [.notFound [8], .use [3], .group g1 [4] [.route (rd 10 [[5]])]], .use [6]]
def chains (r : Except Err RS) : List (List H) :=
  match r with
  | .ok st => st.routes.map (fun r => chain 404 405 st.toScope (.found r)) ++
      [chain 404 405 st.toScope .notFound, chain 404 405 st.toScope .notAllowed]
  | .error _ => []
end C04ex

open C04ex in
example : chains (execList (cleanCfg 63) RS.init (prog ++ [[7]].map Stmt.use)) =
    [[1, 6, 7, 2, 3, 4, 5, 10], [1, 6, 7, 8], [1, 6, 7, 405]] := by decide +kernel

end Rux
