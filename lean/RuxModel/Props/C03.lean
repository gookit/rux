import RuxModel.Lemmas.Conc
import RuxModel.Generated.Facts
/-
  C03 — Concurrent requests are independent of each other and race-free.

  Statement (properties.jsonl): once registration is finished, every request executes exactly the handler
  chain, sees exactly the parameters and produces exactly the response it would produce if it were the
  only request, whatever the interleaving.  No execution contains a data race inside the router, its route
  cache or its pooled contexts.

  Model: Model/Conc.lean (interleaving semantics: a schedule is any list of request ids, every occurrence
  is one atomic step of that request).  Which theorem covers which clause:

  * "whatever the interleaving ... as if it were the only request"
      C03_schedule_independent   the abstract lemma: steps preserve a shared invariant and act on the
                                 (normalised) local state independently of the shared state  ==>  every
                                 schedule gives every request its solo state.
      C03_independent            its instance for the rux step function: for every configuration (any pure
                                 tables, handler programs, options, cache capacity, pool policy), every
                                 shared state with a coherent cache, every number of in-flight requests in
                                 any local states, EVERY schedule and every request i: the state of i equals
                                 its state when only i's steps are run (up to `norm`).
      C03_independent_fresh      the same from the state registration leaves behind (no hypothesis left).
      C03_norm_observables       `norm` hides nothing observable: equal normal forms have the same chain,
                                 cursor, params, data, trace, response, stack and finality.
      C03_independent_done       once the solo run has finished after k steps, every schedule that gives the
                                 request at least k steps leaves it in EXACTLY that final state.
      C03_advance_is_steps       the macro step of the harness scheduler (`adv`) is a sequence of atomic steps.
  * "executes exactly the handler chain / sees exactly the parameters / produces exactly the response"
      are components of the local state (ctx.chain, trace with enter events, ctx.params and the params
      events, outStatus/body/allowHdr), so they are covered by the four theorems above.
  * "no data race inside the router, its route cache or its pooled contexts" (the modelled part)
      C03_no_shared_write        no step changes a registered array cell or a Router/Route field, and every
                                 declared write access is to the cache or the pool.
      C03_access_sound           the declared write sets are sound: a step that does not declare a cache
                                 (pool) write leaves the cache (pool) as it is.
      C03_no_conflicting_access  two steps of two requests never touch the same location with a write
                                 unless the location is the cache (serialised by its mutex, see
                                 C03_cache_lock_modes) or the pool (sync.Pool).
      C03_shared_invariant       after every schedule: nothing registered has changed, the cache is coherent.
      C03_pool_context_reset     whatever context the pool hands out, `Init` leaves no residue.
      C03_request_path_writes_nothing_shared, C03_cache_lock_modes
                                 facts regenerated from the Go AST on every run: the per-request functions
                                 contain no assignment to / append on / delete from a Router or Route field;
                                 every cachedRoutes method that mutates takes the write lock, every method
                                 takes a lock, Has goes through Get.

  NOT proved here (see level_note in checks.json): the Go memory model itself, the internals of container/list, map,
  sync.Pool, sync.RWMutex (trusted: mutual exclusion / exclusive hand-out), races inside user handlers,
  that the real tables are the pure functions `stable`/`dyn` (C01/C07 + the differential engine), panics
  (C09).  The race-detector stress run of the thorough tier is supporting runtime evidence for the first
  two items.
-/
namespace Rux
open Conc

/-- the abstract schedule lemma -/
theorem C03_schedule_independent {C L : Type} (S : Sys C L) (n : Nat) (sch : List (Fin n))
    (c : C) (ls : Fin n → L) (hc : S.Coh c) (hl : ∀ i, S.LInv (ls i)) :
    S.Coh (S.run n sch (c, ls)).1 ∧ (∀ i, S.LInv ((S.run n sch (c, ls)).2 i)) ∧
    ∀ i, S.norm ((S.run n sch (c, ls)).2 i) = iter S.stepPure (count i sch) (S.norm (ls i)) := by
  induction sch generalizing c ls with
  | nil => exact ⟨hc, hl, fun i => rfl⟩
  | cons j rest ih =>
    have hl' : ∀ k, S.LInv (if k = j then (S.step c (ls j)).2 else ls k) := fun k => by
      split
      · exact S.linv_step c (ls j) hc (hl j)
      · exact hl k
    obtain ⟨h1, h2, h3⟩ := ih _ _ (S.coh_step c (ls j) hc (hl j)) hl'
    refine ⟨h1, h2, fun i => ?_⟩
    simp only [Sys.run]
    rw [h3 i]
    -- `j` takes one more step, by `indep` a pure one; the others keep count and state
    by_cases hij : i = j
    · subst hij
      simp [count, iter, S.indep c (ls i) hc (hl i)]
    · simp [count, List.filter, hij, Ne.symm hij]

theorem run_solo {cfg : Cfg} {sh : Shared} (hc : Cache.Coherent cfg.dyn sh.cache) {n : Nat}
    {ls : Fin n → Local} (hl : ∀ i, LInv cfg (ls i)) (sch : List (Fin n)) :
    Coh cfg sh.static (run cfg n sch (sh, ls)).1 ∧
    ∀ i, norm ((run cfg n sch (sh, ls)).2 i) = iter (stepPure cfg sh.static) (count i sch) (norm (ls i)) := by
  have h := C03_schedule_independent (ruxSys cfg sh.static) n sch sh ls ⟨rfl, hc⟩ hl
  rw [ruxSys_run] at h
  exact ⟨h.1, h.2.2⟩

/-- every request's state under every schedule is its solo state -/
theorem C03_independent (cfg : Cfg) (sh : Shared) (hc : Cache.Coherent cfg.dyn sh.cache)
    (n : Nat) (ls : Fin n → Local) (hl : ∀ i, LInv cfg (ls i)) (sch : List (Fin n)) (i : Fin n) :
    norm ((run cfg n sch (sh, ls)).2 i) = norm ((run cfg n (sch.filter (· = i)) (sh, ls)).2 i) := by
  rw [(run_solo hc hl sch).2 i, (run_solo hc hl (sch.filter (· = i))).2 i,
    count_filter_self]

/-- the same, starting from what registration leaves behind: empty cache, empty pool, new requests -/
theorem C03_independent_fresh (cfg : Cfg) (s0 : Static) (cap : Nat) (n : Nat)
    (reqs : Fin n → Bytes × Bytes) (sch : List (Fin n)) (i : Fin n) :
    norm ((run cfg n sch (⟨s0, Cache.empty cap, []⟩, fun j => Local.fresh (reqs j).1 (reqs j).2)).2 i) =
    norm ((run cfg n (sch.filter (· = i))
            (⟨s0, Cache.empty cap, []⟩, fun j => Local.fresh (reqs j).1 (reqs j).2)).2 i) := by
  apply C03_independent
  · exact Cache.empty_coherent cfg.dyn cap
  · intro j; exact (settled (by simp [Local.fresh])).1

/-- `norm` only forgets the pending answer of the cache: everything observable is kept -/
theorem C03_norm_observables (l₁ l₂ : Local) (h : norm l₁ = norm l₂) :
    l₁.ctx = l₂.ctx ∧ l₁.trace = l₂.trace ∧ l₁.outStatus = l₂.outStatus ∧ l₁.body = l₂.body ∧
    l₁.allowHdr = l₂.allowHdr ∧ l₁.stack = l₂.stack ∧ l₁.isFinal = l₂.isFinal := by
  have hf : l₁.isFinal = l₂.isFinal := by rw [← norm_isFinal l₁, ← norm_isFinal l₂, h]
  have key : ∀ l : Local, ∃ p, norm l = { l with pc := p } := fun l => by
    fun_cases norm l <;> exact ⟨_, rfl⟩
  obtain ⟨p₁, e₁⟩ := key l₁
  obtain ⟨p₂, e₂⟩ := key l₂
  rw [e₁, e₂] at h
  injection h with _ _ _ hctx hstack htrace hout hbody hallow
  exact ⟨hctx, htrace, hout, hbody, hallow, hstack, hf⟩

/-- a request that finishes within k steps when alone finishes in exactly the same final state under
    every schedule that gives it at least k steps -/
theorem C03_independent_done (cfg : Cfg) (sh : Shared) (hc : Cache.Coherent cfg.dyn sh.cache)
    (n : Nat) (ls : Fin n → Local) (hl : ∀ i, LInv cfg (ls i)) (sch : List (Fin n)) (i : Fin n) (k : Nat)
    (hsolo : ((run cfg n (List.replicate k i) (sh, ls)).2 i).isFinal = true) (hk : k ≤ count i sch) :
    (run cfg n sch (sh, ls)).2 i = (run cfg n (List.replicate k i) (sh, ls)).2 i := by
  have h1 := (run_solo hc hl sch).2 i
  have h2 := (run_solo hc hl (List.replicate k i)).2 i
  obtain ⟨d, hd⟩ := Nat.exists_eq_add_of_le hk
  rw [norm_of_final hsolo, show count i (List.replicate k i) = k by simp [count]] at h2
  -- after `k` steps the solo run is at a fixed point of `stepPure`
  rw [hd, iter_add, ← h2, iter_fixed (stepPure_final hsolo)] at h1
  have hfin : ((run cfg n sch (sh, ls)).2 i).isFinal = true := by
    rw [← norm_isFinal, h1]; exact hsolo
  exact (norm_of_final hfin).symm.trans h1

/-- what the deterministic scheduler of the harness does in one `adv` (release a request until its next park or
    its end) is a finite sequence of atomic steps of that request: the schedules the correspondence engine
    can realise are schedules of the theorem above -/
theorem C03_advance_is_steps (cfg : Cfg) (fuel : Nat) (sh : Shared) (l : Local) :
    ∃ k, advance cfg fuel sh l = stepN cfg k (sh, l) := by
  fun_cases advance cfg fuel sh l
  · obtain ⟨k, hk⟩ := runUntilPark_steps cfg fuel (step cfg sh l).1 (step cfg sh l).2
    exact ⟨k + 1, hk⟩
  · exact runUntilPark_steps cfg fuel sh l

/-- after every schedule nothing registered has changed and the cache agrees with the pure tables -/
theorem C03_shared_invariant (cfg : Cfg) (sh : Shared) (hc : Cache.Coherent cfg.dyn sh.cache)
    (n : Nat) (ls : Fin n → Local) (hl : ∀ i, LInv cfg (ls i)) (sch : List (Fin n)) :
    (run cfg n sch (sh, ls)).1.static = sh.static ∧
    Cache.Coherent cfg.dyn (run cfg n sch (sh, ls)).1.cache :=
  (run_solo hc hl sch).1

/-- no step writes a cell of a registered array or a Router/Route field -/
theorem C03_no_shared_write (cfg : Cfg) (sh : Shared) (l : Local) :
    (step cfg sh l).1.static = sh.static ∧
    ∀ a ∈ accesses cfg sh l, a.write = true → a.loc = .cache ∨ a.loc = .pool := by
  refine ⟨step_static cfg sh l, ?_⟩
  -- a write `⟨true, loc⟩` is none of the reads listed: the literal writes remain
  rintro ⟨_, loc⟩ ha ⟨⟩
  revert ha
  fun_cases accesses cfg sh l <;> simp [rd, wr]
  case case1 | case10 => exact .inr  -- the pool
  case case3 | case6 => exact .inl  -- the cache
  case case9 sel _ =>  -- `.assemble` only reads
    cases sel <;> simp [sliceCells_read]
    split <;> simp [sliceCells_read]

/-- the declared write sets are sound for the two mutable shared objects -/
theorem C03_access_sound (cfg : Cfg) (sh : Shared) (l : Local) :
    (wr .cache ∉ accesses cfg sh l → (step cfg sh l).1.cache = sh.cache) ∧
    (wr .pool ∉ accesses cfg sh l → (step cfg sh l).1.pool = sh.pool) := by
  -- where `step` changes the cache (the pool), `accesses` lists the write
  fun_cases step cfg sh l
  case case1 | case3 | case9 => simp [accesses, *]  -- pool get, cache get, pool put
  case case6 => cases h : cfg.caching <;> simp [accesses, *]  -- cache set
  all_goals exact ⟨fun _ => rfl, fun _ => rfl⟩  -- the other steps return `sh`

/-- steps of two requests conflict only on the objects that serialise their own accesses -/
theorem C03_no_conflicting_access (cfg : Cfg) (sh sh' : Shared) (l₁ l₂ : Local) (a₁ a₂ : Access)
    (h₁ : a₁ ∈ accesses cfg sh l₁) (h₂ : a₂ ∈ accesses cfg sh' l₂) (hloc : a₁.loc = a₂.loc)
    (hw : a₁.write = true ∨ a₂.write = true) : a₁.loc = .cache ∨ a₁.loc = .pool := by
  rcases hw with hw | hw
  · exact (C03_no_shared_write cfg sh l₁).2 a₁ h₁ hw
  · rw [hloc]; exact (C03_no_shared_write cfg sh' l₂).2 a₂ h₂ hw

/-- whatever context `sync.Pool` hands out (any earlier request's leftovers), `Init` resets every field -/
theorem C03_pool_context_reset (cfg : Cfg) (pool : List Ctx) : (takeCtx cfg pool).init = Ctx.pristine :=
  init_pristine

/-- ServeHTTP, handleHTTPRequest, QuickMatch, match, cacheDynamicRoute, findAllowedMethods, matchRegex
    contain no assignment to / append on / delete from a field of the Router or of a shared Route -/
theorem C03_request_path_writes_nothing_shared : Facts.requestPathWrites = [] := rfl

/-- every `cachedRoutes` method that mutates the list or the index takes the write lock first; every method
    takes a lock (or goes through one that does); `Get` and `Set` — the two the request path calls — hold the
    write lock; `Has` goes through `Get` -/
theorem C03_cache_lock_modes :
    (Facts.cacheMethods.all (fun e => !e.2.2 || e.2.1 == "Lock")) = true ∧
    (Facts.cacheMethods.all (fun e => e.2.1 == "Lock" || e.2.1 == "RLock" || e.2.1 == "via:Get")) = true ∧
    ("Get", "Lock", true) ∈ Facts.cacheMethods ∧ ("Set", "Lock", true) ∈ Facts.cacheMethods ∧
    ("Has", "via:Get", false) ∈ Facts.cacheMethods := by decide

-- the cache keys "GET/b", "GET/c", "GET/u/7", "GET/u/8"
def demoKeyB : Bytes := [71, 69, 84, 47, 98]
def demoKeyC : Bytes := [71, 69, 84, 47, 99]
def demoKeyU7 : Bytes := [71, 69, 84, 47, 117, 47, 55]
def demoKeyU8 : Bytes := [71, 69, 84, 47, 117, 47, 56]

/-- three `Use` calls left the global slice with len 3, cap 4 (array 0); routes /b, /c (static) and
    /u/{id} (dynamic, one route middleware in array 1); cache on with capacity 1 -/
def demoStatic : Static :=
  { heap := [[.user 1, .user 2, .user 3, .nil], [.user 4]],
    glob := ⟨0, 3, 4⟩, noRoute := ⟨2, 0, 0⟩, noAllowed := ⟨2, 0, 0⟩,
    routes := [⟨[], ⟨2, 0, 0⟩, .user 10⟩, ⟨[], ⟨2, 0, 0⟩, .user 11⟩, ⟨[117], ⟨1, 1, 1⟩, .user 12⟩] }

def demoCfg : Cfg :=
  { stable := fun k => if k = demoKeyB then some 0 else if k = demoKeyC then some 1 else none,
    dyn := fun k => if k = demoKeyU7 then some (2, [([105, 100], [55])])
                    else if k = demoKeyU8 then some (2, [([105, 100], [56])]) else none,
    prog := fun id =>
      if id = 1 then [.next] else if id = 2 then [.next] else if id = 3 then [.park, .next, .emit 3]
      else if id = 4 then [.setParam [105, 100] [0], .next]
      else if id = 10 then [.write [66]] else if id = 11 then [.write [67]]
      else if id = 12 then [.seeParams, .write [85]] else [],
    caching := true, fallback := false, mna := false, methods := [], pick := fun _ => 0 }

def demoShared : Shared := ⟨demoStatic, Cache.empty 1, []⟩

def demoReqs : Fin 3 → Local
  | 0 => Local.fresh mGET [47, 98]          -- GET /b
  | 1 => Local.fresh mGET [47, 99]          -- GET /c
  | 2 => Local.fresh mGET [47, 117, 47, 55] -- GET /u/7

/-- an interleaved schedule long enough for all three requests -/
def demoSched : List (Fin 3) :=
  List.replicate 9 0 ++ (List.replicate 30 [1, 2]).flatten ++ (List.replicate 20 [0, 1, 2]).flatten

-- (`decide +kernel` on the 129-step runs: the elaborator's evaluator exceeds its recursion limit)
-- /b is parked in the third global middleware while /c is assembled and served (the F10a schedule):
-- each request still answers with its own handler, and all three finish
example : ((run demoCfg 3 demoSched (demoShared, demoReqs)).2 0).body = [66] ∧
    ((run demoCfg 3 demoSched (demoShared, demoReqs)).2 1).body = [67] ∧
    ((run demoCfg 3 demoSched (demoShared, demoReqs)).2 2).body = [85] ∧
    ((run demoCfg 3 demoSched (demoShared, demoReqs)).2 0).isFinal = true ∧
    ((run demoCfg 3 demoSched (demoShared, demoReqs)).2 2).isFinal = true := by decide +kernel

-- request 2 saw the parameter as rewritten by its own route middleware, its chain is global ++ route ++ main
example : ((run demoCfg 3 demoSched (demoShared, demoReqs)).2 2).trace =
      [.enter 1, .enter 2, .enter 3, .enter 4, .enter 12, .params (some [([105, 100], [0])]), .tag 3] ∧
    ((run demoCfg 3 demoSched (demoShared, demoReqs)).2 2).ctx.chain =
      [.user 1, .user 2, .user 3, .user 4, .user 12] := by decide +kernel

-- the dynamic route went into the cache (with the matched value, not the one the handler wrote),
-- three contexts went back into the pool
example : (run demoCfg 3 demoSched (demoShared, demoReqs)).1.cache.items = [(demoKeyU7, (2, [([105, 100], [55])]))] ∧
    (run demoCfg 3 demoSched (demoShared, demoReqs)).1.pool.length = 3 := by decide +kernel

-- the hypotheses of C03_independent hold for this configuration
example : Cache.Coherent demoCfg.dyn demoShared.cache := Cache.empty_coherent _ _
example : ∀ i, LInv demoCfg (demoReqs i) := by
  intro i st v h
  match i with
  | 0 | 1 | 2 => simp [demoReqs, Local.fresh] at h

-- a state in which the cache answer differs between schedules: after [2,2] alone request 2 holds a MISS,
-- after another request for the same key ran first it holds a HIT; `norm` identifies exactly these two
def demoReqs2 : Fin 2 → Local
  | 0 => Local.fresh mGET [47, 117, 47, 55]
  | 1 => Local.fresh mGET [47, 117, 47, 55]

example : ((run demoCfg 2 [0, 0] (demoShared, demoReqs2)).2 0).pc = .got .primary none ∧
    ((run demoCfg 2 [1, 1, 1, 0, 0] (demoShared, demoReqs2)).2 0).pc =
      .got .primary (some (2, [([105, 100], [55])])) := ⟨rfl, rfl⟩

-- the slice model can express the defect F10a: the pre-fix code appended to the shared global slice; with
-- spare capacity the second request overwrites the cell the first request's chain ends in
example :
    let r1 := appendInPlace demoStatic.heap demoStatic.glob [.user 10]
    let r2 := appendInPlace r1.1 demoStatic.glob [.user 11]
    readSlice r1.1 r1.2 = [.user 1, .user 2, .user 3, .user 10] ∧
    readSlice r2.1 r1.2 = [.user 1, .user 2, .user 3, .user 11] ∧
    r1.1 ≠ demoStatic.heap := by decide

-- whereas the step of the model (the current code) leaves the heap alone in the same situation
example : (step demoCfg demoShared { (Local.fresh mGET [47, 98]) with pc := .assemble (.route 0) }).1.static.heap =
    demoStatic.heap := rfl

end Rux
