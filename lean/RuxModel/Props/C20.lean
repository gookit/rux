import RuxModel.Lemmas.Gates
/-
  C20 — Auth, method-override and http.Handler wrappers behave as gates.

  Clause of the statement                                              theorem(s)
  ------------------------------------------------------------------   ---------------------------------------
  HTTPBasicAuth lets the rest of the chain run  iff  credentials are    C20_basic_auth_decision (decision function),
    present and (no account list or the password matches)               C20_basic_auth (the handler inside the chain:
                                                                         downstream runs ↔ …, traces, for every rest
                                                                         of the chain and every chain position),
                                                                        C20_basic_auth_served (the same through the
                                                                         cursor loop `Context.Next`, chains ≤ 63)
  no credentials ⇒ 401 with a WWW-Authenticate challenge               C20_basic_auth_401, C20_basic_auth_response
  otherwise (unknown user / wrong password) ⇒ 403                       C20_basic_auth_403, C20_basic_auth_response
  nothing downstream runs after a denial                                C20_basic_auth (trace has no event of a later
                                                                         handler), C20_basic_auth_trace (the exact
                                                                         trace), C20_basic_auth_aborts (the handler
                                                                         never calls Next and aborts iff it denies),
                                                                        C20_basic_auth_served
  "well-formed Basic credentials" (the header parser)                   C20_parse_set_roundtrip (what SetBasicAuth
                                                                         produces is parsed back), C20_parse_rejects
                                                                         (no header, empty header, wrong scheme),
                                                                        C20_parse_scheme_case ("basic " in any case)
  override only for POST, only to PUT/PATCH/DELETE, from the form       C20_override (as in DESIGN.md §6),
    value else the header, upper-cased, original recorded;              C20_override_complete (it DOES rewrite when
    every other request untouched                                        it may), C20_override_non_post,
                                                                        C20_override_case_insensitive
  WrapHTTPHandlers [w₁…wₙ] r = w₁ (w₂ (… (wₙ r))), first listed is      C20_wrap_fold (any wrappers, any n ≥ 1),
    outermost: enter 1…n, leave n…1                                      C20_wrap_order (tracing wrappers),
                                                                        C20_wrap_override_inside (the override wrapper
                                                                         between tracing wrappers), C20_wrap_nil
                                                                         (n = 0: the code returns a nil handler —
                                                                         an observation, outside the quantifier)
  wrapped http.Handlers take part in the chain like native ones          C20_wrapped_in_chain, C20_wrapped_between_native,
                                                                        C20_wrapped_served

  NOT proved here (trusted / sampled by the `gates` engine, see checks.json):
  * that `net/http`'s `Request.BasicAuth`, `FormValue`, `Header.Get` and `strings.ToUpper` behave like
    `requestBasicAuth`, `formValue` and ASCII upper-casing (differentially tested on generated headers,
    bodies and query strings; the decision theorems take their results as parameters);
  * statements about arbitrary handlers IN FRONT of the gate (they may abort or answer before it runs):
    the gate theorems are about the chain segment `basicAuth :: rest` at an arbitrary position `i`; how
    such a segment is embedded in a longer chain is the recursion of `onion` (lemma `chain_runs_onion`
    ties it to the cursor loop for every chain of at most 63 handlers), the properties of that embedding
    are C04/C05's;
  * rux's `responseWriter` (C08): `respOf` is a small model of "lazy status, first write commits".
-/
namespace Rux
open Gates

/-! ## HTTPBasicAuth -/

theorem C20_basic_auth_decision (accounts : List (Bytes × Bytes)) (creds : Option (Bytes × Bytes)) :
    authDecide accounts creds = .pass ↔
      ∃ u p, creds = some (u, p) ∧ (accounts = [] ∨ lookup u accounts = some p) := by
  rcases creds with _ | ⟨u, p⟩
  · simp [authDecide]
  · rw [authDecide_some]; split <;> simp [*, and_assoc]

theorem C20_basic_auth_401 (accounts : List (Bytes × Bytes)) (creds : Option (Bytes × Bytes)) :
    (creds = none → authDecide accounts creds = .deny401 challenge) ∧
    (∀ ch, authDecide accounts creds = .deny401 ch → creds = none ∧ ch = challenge) := by
  rcases creds with _ | ⟨u, p⟩
  · simp [authDecide, eq_comm]
  · rw [authDecide_some]; split <;> simp

theorem C20_basic_auth_403 (accounts : List (Bytes × Bytes)) (creds : Option (Bytes × Bytes)) :
    authDecide accounts creds = .deny403 ↔
      ∃ u p, creds = some (u, p) ∧ accounts ≠ [] ∧ lookup u accounts ≠ some p := by
  rcases creds with _ | ⟨u, p⟩
  · simp [authDecide]
  · rw [authDecide_some]; split <;> simp [*, and_assoc, ← not_or]

theorem C20_basic_auth_aborts (accounts : List (Bytes × Bytes)) (creds : Option (Bytes × Bytes)) :
    Flat (basicAuthHandler accounts creds) ∧
    (hasAbort (basicAuthHandler accounts creds) = true ↔ authDecide accounts creds ≠ .pass) := by
  rcases creds with _ | ⟨u, p⟩
  · simp [basicAuthHandler, authDecide, Flat, hasAbort, abortWithStatusMsg]
  · rw [basicAuthHandler_some]
    split <;> simp [Flat, hasAbort, abortWithStatus, *]

theorem C20_basic_auth_trace (accounts : List (Bytes × Bytes)) (creds : Option (Bytes × Bytes))
    (rest : List Handler) (i : Nat) :
    onion i (basicAuthHandler accounts creds :: rest) =
      match authDecide accounts creds, creds with
      | .pass, some (u, p) =>
          ([Ev.enter i, .out i (.set kUsername u), .out i (.set kPassword p), .leave i]
             ++ (onion (i+1) rest).1, (onion (i+1) rest).2)
      | .deny401 ch, _ =>
          ([Ev.enter i, .out i (.header hWWWAuth ch), .out i (.status 401), .out i (.body unauthorizedBody),
            .leave i], true)
      | .deny403, some (u, p) =>
          ([Ev.enter i, .out i (.status 403), .out i (.set kUsername u), .out i (.set kPassword p),
            .leave i], true)
      | _, _ => ([], false) := by
  rcases creds with _ | ⟨u, p⟩
  · rfl
  · rw [basicAuthHandler_some, authDecide_some]
    split <;> rfl

theorem C20_basic_auth (accounts : List (Bytes × Bytes)) (creds : Option (Bytes × Bytes))
    (h : Handler) (rest : List Handler) (i : Nat) :
    ranAfter i (onion i (basicAuthHandler accounts creds :: h :: rest)).1 = true ↔
      ∃ u p, creds = some (u, p) ∧ (accounts = [] ∨ lookup u accounts = some p) := by
  rw [← C20_basic_auth_decision, C20_basic_auth_trace]
  obtain ⟨t, ht⟩ := onion_head (i+1) h rest
  rcases creds with _ | ⟨u, p⟩
  · simp [authDecide, ranAfter]
  · cases authDecide accounts (some (u, p)) <;> simp [ranAfter, ht]

theorem C20_basic_auth_response (accounts : List (Bytes × Bytes)) (creds : Option (Bytes × Bytes))
    (rest : List Handler) :
    (creds = none →
        (respOf (onion 0 (basicAuthHandler accounts creds :: rest)).1).finalStatus = 401 ∧
        (respOf (onion 0 (basicAuthHandler accounts creds :: rest)).1).finalHeader hWWWAuth = some challenge) ∧
    (authDecide accounts creds = .deny403 →
        (respOf (onion 0 (basicAuthHandler accounts creds :: rest)).1).finalStatus = 403) ∧
    (∀ u p, creds = some (u, p) → authDecide accounts creds = .pass →
        outsOf (onion 0 (basicAuthHandler accounts creds :: rest)).1 =
          [.set kUsername u, .set kPassword p] ++ outsOf (onion 1 rest).1) := by
  rw [C20_basic_auth_trace]
  refine ⟨?_, ?_, ?_⟩
  · rintro rfl
    exact ⟨rfl, rfl⟩
  · intro hd
    rcases creds with _ | ⟨u, p⟩
    · cases hd
    · rw [hd]; rfl
  · rintro u p rfl hd
    rw [hd]; rfl

theorem C20_basic_auth_served (accounts : List (Bytes × Bytes)) (creds : Option (Bytes × Bytes))
    (rest : List Handler) (hlen : rest.length < 63) :
    ∃ f0, ∀ f, f0 ≤ f → ∃ tr,
      serve (basicAuthHandler accounts creds :: rest) f = some tr ∧
      (authDecide accounts creds = .pass →
        ∃ u p, creds = some (u, p) ∧
          tr = [Ev.enter 0, .out 0 (.set kUsername u), .out 0 (.set kPassword p), .leave 0]
                 ++ (onion 1 rest).1) ∧
      (authDecide accounts creds ≠ .pass → ranAfter 0 tr = false ∧ tr.getLast? = some (.leave 0)) := by
  obtain ⟨f0, hf⟩ := chain_runs_onion (basicAuthHandler accounts creds :: rest) hlen
  refine ⟨f0, fun f hge => ⟨_, hf f hge, ?_, ?_⟩⟩
  · intro hp
    obtain ⟨u, p, hc, _⟩ := (C20_basic_auth_decision accounts creds).mp hp
    refine ⟨u, p, hc, ?_⟩
    rw [C20_basic_auth_trace, hp, hc]
  · intro hnp
    rw [C20_basic_auth_trace]
    rcases creds with _ | ⟨u, p⟩
    · exact ⟨rfl, rfl⟩
    · cases hd : authDecide accounts (some (u, p))
      case pass => exact absurd hd hnp
      all_goals exact ⟨rfl, rfl⟩

/-! ## the header parser (`Request.BasicAuth`) -/

/-- what `Request.SetBasicAuth(u, p)` puts into the header is parsed back to `(u, p)` — for every
    user name without a colon and every password (bytes), empty ones included -/
theorem C20_parse_set_roundtrip (u p : Bytes) (hb : ∀ b ∈ u ++ [58] ++ p, b < 256) (hu : 58 ∉ u) :
    requestBasicAuth (some (setBasicAuth u p)) = some (u, p) := by
  rw [requestBasicAuth, setBasicAuth, parseBasicAuth_append rfl, b64decode_encode _ hb]
  exact cutColon_join u p hu

/-- no header, an empty header, a header shorter than the scheme, or one that does not start with
    `Basic ` (compared case-insensitively) carries no credentials -/
theorem C20_parse_rejects :
    requestBasicAuth none = none ∧ requestBasicAuth (some []) = none ∧
    (∀ a : Bytes, a.length < 6 → requestBasicAuth (some a) = none) ∧
    (∀ a : Bytes, equalFold (a.take 6) basicPrefix = false → requestBasicAuth (some a) = none) := by
  have h6 : basicPrefix.length = 6 := rfl
  refine ⟨rfl, rfl, fun a h => ?_, fun a h => ?_⟩ <;>
    simp [requestBasicAuth, parseBasicAuth, h6, h]

/-- the scheme is matched case-insensitively: any 6-byte prefix that folds to `basic ` is as good as `Basic ` -/
theorem C20_parse_scheme_case (pre rest : Bytes) (hl : pre.length = 6)
    (hf : pre.map lower = basicPrefix.map lower) :
    parseBasicAuth (pre ++ rest) = parseBasicAuth (basicPrefix ++ rest) := by
  have e1 : equalFold pre basicPrefix = true := by simp [equalFold, hl, hf, basicPrefix]
  rw [parseBasicAuth_append hl, parseBasicAuth_append rfl, e1]
  rfl

/-! ## HTTPMethodOverrideHandler -/

theorem C20_override (method form hdr : Bytes) :
    ((methodOverride method form hdr).1 ≠ method →
        method = POST ∧
        ((methodOverride method form hdr).1 = PUT ∨ (methodOverride method form hdr).1 = PATCH ∨
          (methodOverride method form hdr).1 = DELETE) ∧
        (methodOverride method form hdr).1 = Bytes.toUpper (if form ≠ [] then form else hdr) ∧
        (methodOverride method form hdr).2 = some POST) ∧
    ((methodOverride method form hdr).1 = method → (methodOverride method form hdr).2 = none) := by
  rw [methodOverride_eq]
  generalize Bytes.toUpper (if form ≠ [] then form else hdr) = om
  split
  next h =>
    obtain ⟨rfl, hw⟩ := h
    refine ⟨fun _ => ⟨rfl, hw, rfl, rfl⟩, fun he => ?_⟩
    rcases hw with h | h | h <;> rw [h] at he <;> exact absurd he (by decide)
  next => exact ⟨fun h => absurd rfl h, fun _ => rfl⟩

theorem C20_override_complete (form hdr : Bytes)
    (h : Bytes.toUpper (if form ≠ [] then form else hdr) = PUT ∨
         Bytes.toUpper (if form ≠ [] then form else hdr) = PATCH ∨
         Bytes.toUpper (if form ≠ [] then form else hdr) = DELETE) :
    methodOverride POST form hdr = (Bytes.toUpper (if form ≠ [] then form else hdr), some POST) := by
  rw [methodOverride_eq, if_pos ⟨rfl, h⟩]

theorem C20_override_non_post (method form hdr : Bytes) (h : method ≠ POST) :
    methodOverride method form hdr = (method, none) := by
  rw [methodOverride_eq, if_neg fun hc => h hc.1]

theorem C20_override_case_insensitive (method form hdr : Bytes) :
    methodOverride method (Bytes.toUpper form) (Bytes.toUpper hdr) = methodOverride method form hdr := by
  have : (if Bytes.toUpper form ≠ [] then Bytes.toUpper form else Bytes.toUpper hdr) =
      Bytes.toUpper (if form ≠ [] then form else hdr) := by cases form <;> rfl
  rw [methodOverride_eq, methodOverride_eq, this, Bytes.toUpper_idem]

/-! ## WrapHTTPHandlers -/

/-- for every non-empty wrapper list and ANY wrappers: `WrapHTTPHandlers [w₁…wₙ] r = w₁ (w₂ (… (wₙ r)))` -/
theorem C20_wrap_fold {α : Type} (pre : List (α → α)) (r : α) (hne : pre ≠ []) :
    wrapHTTPHandlers pre r = some (pre.foldr (fun w acc => w acc) r) := by
  rw [wrapHTTPHandlers, wrap_loop pre r pre.length (Nat.le_refl _), if_neg (mt List.eq_nil_of_length_eq_zero hne),
    Nat.sub_self]
  rfl

/-- observation (outside the property's quantifier `1..n`): with no wrapper the code returns the nil
    `http.Handler`, not the router -/
theorem C20_wrap_nil {α : Type} (r : α) : wrapHTTPHandlers ([] : List (α → α)) r = none := by
  rfl

/-- the first listed wrapper is outermost: with tracing wrappers `k₁ … kₙ` (n ≥ 1) every request enters
    them in the order 1…n, reaches the router, and leaves them in the order n…1 -/
theorem C20_wrap_order (ks : List Nat) (hne : ks ≠ []) :
    ∃ h, wrapHTTPHandlers (ks.map traceW) routerH = some h ∧
      ∀ req : Req, h req =
        ks.map WEv.enter ++ [WEv.served req.method req.orig] ++ ks.reverse.map WEv.leave :=
  ⟨_, C20_wrap_fold _ _ (by simpa using hne), nest_traceW ks routerH⟩

/-- the override wrapper between tracing wrappers: all tracing wrappers still run in list order around
    it, and the router sees exactly `methodOverride` of the incoming request -/
theorem C20_wrap_override_inside (ks₁ ks₂ : List Nat) :
    ∃ h, wrapHTTPHandlers (ks₁.map traceW ++ [overrideW] ++ ks₂.map traceW) routerH = some h ∧
      ∀ req : Req, h req =
        (ks₁ ++ ks₂).map WEv.enter
          ++ [WEv.served (methodOverride req.method req.form req.hdr).1
                (match (methodOverride req.method req.form req.hdr).2 with
                 | some o => some o | none => req.orig)]
          ++ (ks₁ ++ ks₂).reverse.map WEv.leave := by
  refine ⟨_, C20_wrap_fold _ _ (by simp), fun req => ?_⟩
  show nest _ routerH req = _
  rw [List.append_assoc, nest_append, nest_traceW]
  show _ ++ nest (ks₂.map traceW) routerH _ ++ _ = _
  rw [nest_traceW]
  simp
  rfl  -- the `match` in `overrideW` and the one in the statement are two matcher constants

/-! ## WrapHTTPHandler / WrapHTTPHandlerFunc (and WrapH, WrapHF, HTTPHandler, HTTPHandlerFunc) -/

/-- a wrapped generic handler at chain position `i`: its effects happen once, between `enter i` and
    `leave i`, it neither starts the rest itself nor aborts — the rest of the chain runs after it exactly
    as after a native handler that does not call `Next` -/
theorem C20_wrapped_in_chain (effects : List Out) (rest : List Handler) (i : Nat) :
    onion i (wrapHTTPHandler effects :: rest) =
      ([Ev.enter i] ++ effects.map (Ev.out i) ++ [Ev.leave i] ++ (onion (i+1) rest).1,
       (onion (i+1) rest).2) := by
  rw [onion_flat i _ rest (by simp [Flat, wrapHTTPHandler]), emits_wrapHTTPHandler]
  simp [hasAbort, wrapHTTPHandler]

/-- between native middleware: a native onion middleware (`a; c.Next(); b`) in front of a wrapped handler
    sees the wrapped handler AND the whole rest of the chain run inside its `Next` call -/
theorem C20_wrapped_between_native (a b : Out) (effects : List Out) (rest : List Handler) (i : Nat) :
    (onion i ([.emit a, .next, .emit b] :: wrapHTTPHandler effects :: rest)).1 =
      [Ev.enter i, .out i a, .enter (i+1)] ++ effects.map (Ev.out (i+1)) ++ [Ev.leave (i+1)]
        ++ (onion (i+2) rest).1 ++ [.out i b, .leave i] := by
  rw [onion]
  simp only [C20_wrapped_in_chain, List.foldl_cons, List.foldl_nil, specStep]
  simp

/-- the same through the cursor loop `Context.Next` (at most 63 handlers) -/
theorem C20_wrapped_served (effects : List Out) (rest : List Handler) (hlen : rest.length < 63) :
    ∃ f0, ∀ f, f0 ≤ f →
      serve (wrapHTTPHandler effects :: rest) f =
        some ([Ev.enter 0] ++ effects.map (Ev.out 0) ++ [Ev.leave 0] ++ (onion 1 rest).1) := by
  obtain ⟨f0, hf⟩ := chain_runs_onion (wrapHTTPHandler effects :: rest) hlen
  refine ⟨f0, fun f hge => ?_⟩
  rw [hf f hge, C20_wrapped_in_chain]

/-! ## non-vacuity -/

-- accounts [("test","123")]: right password passes, wrong password / unknown user with empty password
-- are 403, no credentials is 401
example : authDecide [([116,101,115,116], [49,50,51])] (some ([116,101,115,116], [49,50,51])) = .pass := rfl
example : authDecide [([116,101,115,116], [49,50,51])] (some ([116,101,115,116], [49,50])) = .deny403 := rfl
example : authDecide [([116,101,115,116], [49,50,51])] (some ([120], [])) = .deny403 := rfl
example : authDecide [] (some ([120], [])) = .pass := rfl
example : authDecide [([116,101,115,116], [49,50,51])] none = .deny401 challenge := rfl

-- a chain `[HTTPBasicAuth, onion middleware, main]`: on pass the rest runs, on 403 it does not
example : ranAfter 0 (onion 0 [basicAuthHandler [] (some ([120], [])),
    [.emit (.mark 1), .next, .emit (.mark 2)], [.emit (.mark 3)]]).1 = true := rfl
example : (onion 0 [basicAuthHandler [([116], [49])] (some ([120], [])),
    [.emit (.mark 1), .next, .emit (.mark 2)], [.emit (.mark 3)]]).1 =
    [.enter 0, .out 0 (.status 403), .out 0 (.set kUsername [120]), .out 0 (.set kPassword []), .leave 0] := rfl

-- POST + `_method=delete` is rewritten, GET + the same is not, POST + `get` is not
example : methodOverride POST [100,101,108,101,116,101] [] = (DELETE, some POST) := rfl
example : methodOverride [71,69,84] [100,101,108,101,116,101] [] = ([71,69,84], none) := rfl
example : methodOverride POST [103,101,116] PUT = (POST, none) := rfl
-- the form value wins over the header
example : methodOverride POST [112,117,116] DELETE = (PUT, some POST) := rfl

-- three tracing wrappers
example : (wrapHTTPHandlers [traceW 1, traceW 2, traceW 3] routerH).map (· ⟨POST, [], [], none⟩) =
    some [.enter 1, .enter 2, .enter 3, .served POST none, .leave 3, .leave 2, .leave 1] := rfl

-- `basic dGVzdDoxMjM=` (lower-case scheme) carries ("test", "123"); `Basic dGVzdA==` ("test", no colon) and
-- `Bearer …` carry nothing; "Basic Og==" (":") carries the empty user with the empty password
example : requestBasicAuth (some [98,97,115,105,99,32,100,71,86,122,100,68,111,120,77,106,77,61]) =
    some ([116,101,115,116], [49,50,51]) := rfl
example : requestBasicAuth (some [66,97,115,105,99,32,100,71,86,122,100,65,61,61]) = none := rfl
example : requestBasicAuth (some [66,101,97,114,101,114,32,120]) = none := rfl
example : requestBasicAuth (some [66,97,115,105,99,32,79,103,61,61]) = some ([], []) := rfl
example : setBasicAuth [116,101,115,116] [49,50,51] =
    [66,97,115,105,99,32,100,71,86,122,100,68,111,120,77,106,77,61] := rfl

end Rux
