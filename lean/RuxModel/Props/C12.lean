import RuxModel.Lemmas.Reg
import RuxModel.Lemmas.RegHeap
/-
  C12 — Groups add prefix and middleware to their own routes and leave no residue.

  Model: `Model/Reg.lean` (`exec`/`execList` mirror Group / Controller / Resource / Use / Add… /
  appendGroupInfo / Route.Use; `den`/`denList` is the lexically scoped denotation; `Spec.denote` the
  reference semantics with the explicit stack of enclosing groups).  `formatPath` / `simpleFmtPath`
  are parameters (`cfg.fmt`, `cfg.sfmt`); what is assumed about them is a hypothesis of the theorem
  that needs it, and `cleanFns`, `cleanFmt_ne` (Lemmas/Reg.lean) show that the executable instance
  of the driver meets these hypotheses.

  Clause of the statement                                            theorem
  ---------------------------------------------------------------    ---------------------------------
  routes inside Group(..) — any depth, incl. Controller/Resource —   C12_denotation, C12_denotation_total,
  are registered under the concatenated prefixes with the middle-    C12_denotation_spec, C12_paths_concat,
  ware of their enclosing groups in effect at registration           C12_group_mw_prefix
  when Group returns, prefix and group middleware are what they      C12_restore, C12_restore_any,
  were before; siblings / later routes outside are unaffected        C12_group_leaves_no_residue
  Router.Use inside a group affects only routes registered later     C12_use_local, C12_use_in_group_not_global
  inside that group
  Controller / Resource are Group instances                          C12_resource_controller
  (slices) a registered route's handlers never change afterwards,    C12_no_alias (slice model:
  although groups append into shared backing arrays                  Model/RegHeap.lean)

  C12_no_alias assumes that every call passes a middleware slice with a backing array of its own
  (the model allocates one per call).  A caller that hands sub-slices of ONE array with spare
  capacity to several Group calls gets that array overwritten by rux: known finding F17 (reg corpus).

  NOT proved here: which request path reaches a stored path (C01/C11, table and path models); the
  paths `Resource` registers (C16); that `cfg.fmt`/`cfg.sfmt` ARE formatPath/simpleFmtPath (C11,
  path worker; sampled here by the `reg` engine on white-space-free paths).
-/
namespace Rux
open Reg Reg.Spec

/-- The interpreter computes the denotation: after any program, run from ANY state, the routes are
    the old ones followed by exactly the routes the program denotes in the scope it started in —
    each with the prefix and the group middleware of its own position — and the scope handed on is
    the denoted one. -/
theorem C12_denotation (cfg : Cfg) (st st' : RS) (prog : List Stmt)
    (h : execList cfg st prog = .ok st') :
    st'.routes = st.routes ++ (denList cfg st.toScope prog).1 ∧
    st'.toScope = (denList cfg st.toScope prog).2 := by
  have := execList_den prog h
  subst this
  exact ⟨rfl, rfl⟩

/-- … and the interpreter does succeed whenever no route reaches the handler limit and no
    `Resource` call gets a bad controller (so `C12_denotation` is not vacuous). -/
theorem C12_denotation_total (cfg : Cfg) (st : RS) (prog : List Stmt)
    (hc : okCtrlList prog = true)
    (hl : ∀ r ∈ (denList cfg st.toScope prog).1, r.handlers.length < cfg.limit) :
    execList cfg st prog = .ok ⟨(denList cfg st.toScope prog).2, st.routes ++ (denList cfg st.toScope prog).1⟩ :=
  execList_total cfg st prog hc hl

/-- From a fresh router the registered routes are those of the reference semantics: path = the
    formatted prefixes of the enclosing groups (outermost first) + the route's path, handlers = the
    levels of the enclosing groups (outermost first; a level is the group's middleware followed by the
    `Use` calls made in it before the route) followed by the route's own middleware. -/
theorem C12_denotation_spec (cfg : Cfg) (hne : ∀ x, cfg.fmt x ≠ []) (st' : RS) (prog : List Stmt)
    (h : execList cfg RS.init prog = .ok st') :
    st'.routes = (denoteList cfg LScope.init prog).1 :=
  (execList_fresh hne prog [] (by rwa [List.map_nil, List.append_nil])).1

/-- For clean prefixes and paths the path functions do nothing: the stored path is literally the
    concatenation `g₁ ++ … ++ gₙ ++ path` (`storedPath_id`). -/
theorem C12_paths_concat (cfg : Cfg) (P : Bytes → Prop) (hc : CleanFns cfg P) (prog : List Stmt)
    (hp : CleanProg P prog) :
    denoteList cfg LScope.init prog = denoteList (idCfg cfg) LScope.init prog ∧
    ∀ (ls : LScope) (d : RouteDef),
      (mkRouteL (idCfg cfg) ls d).path = ls.pfxs.reverse.flatten ++ d.path := by
  refine ⟨denoteList_clean hc LScope.init (by simp [LScope.init]) prog hp, fun ls d => ?_⟩
  simp only [mkRouteL, storedPath_id, LScope.fullPrefix]
  simp [idCfg]

/-- Every route registered inside `Group(p, body, mws...)` carries the group handlers in effect
    outside followed by `mws` as a PREFIX of its handlers (outer before inner), whatever the body is;
    the rest is what the body gives the route in a scope without group handlers. -/
theorem C12_group_mw_prefix (cfg : Cfg) (sc : Scope) (p : Bytes) (mws : List H) (body : List Stmt) :
    (den cfg sc (.group p mws body)).1 =
      (denList cfg { enterScope cfg sc p mws with grp := [] } body).1.map (Route.pre (sc.grp ++ mws)) := by
  have h := denList_grp_eq_pre cfg (enterScope cfg sc p mws) (sc.grp ++ mws) body
  simp only [den]
  rw [enterScope_eq]
  exact congrArg Prod.fst h

/-- No statement changes the prefix, and only a `Use` standing directly in the current body changes
    the current group handlers. -/
theorem C12_restore_any (cfg : Cfg) (st st' : RS) (s : Stmt) (h : exec cfg st s = .ok st') :
    st'.pfx = st.pfx ∧ ((∀ hs, s ≠ .use hs) → st'.grp = st.grp) := by
  have := exec_den s h
  subst this
  refine ⟨den_pfx cfg st.toScope s, fun hn => ?_⟩
  cases s with
  | use hs => exact absurd rfl (hn hs)
  | _ => rfl

/-- In particular `Group` (and `Controller`, `Resource`) returns with the prefix and the group
    handlers it was called with — for every body. -/
theorem C12_restore (cfg : Cfg) (st st' : RS) (p : Bytes) (mws : List H) (body : List Stmt)
    (h : exec cfg st (.group p mws body) = .ok st') :
    st'.pfx = st.pfx ∧ st'.grp = st.grp :=
  (C12_restore_any cfg st st' _ h).imp_right fun hg => hg fun _ => nofun

/-- no residue: whatever a group contains, the statements after it denote what they denote after
    a group that only contains the router-wide settings (global `Use` cannot occur inside, see
    `C12_use_in_group_not_global`): the following siblings see the scope `sc` with at most the
    router-wide lists changed. -/
theorem C12_group_leaves_no_residue (cfg : Cfg) (sc : Scope) (p : Bytes) (mws : List H) (body rest : List Stmt) :
    (denList cfg sc (.group p mws body :: rest)).1 =
      (den cfg sc (.group p mws body)).1 ++
      (denList cfg { sc with globals := (den cfg sc (.group p mws body)).2.globals
                             noRoute := (den cfg sc (.group p mws body)).2.noRoute
                             noAllowed := (den cfg sc (.group p mws body)).2.noAllowed } rest).1 := by
  simp [denList, den, Scope.after]

/-- `Use` in a group: earlier routes of the group are untouched, later routes of the group get
    exactly `hs` inserted behind the group handlers in effect at the `Use`, and what follows the
    group is denoted in the same scope as without the `Use`. -/
theorem C12_use_local (cfg : Cfg) (hne : ∀ x, cfg.fmt x ≠ []) (sc : Scope) (p : Bytes) (mws : List H)
    (b1 b2 : List Stmt) (hs : List H) :
    let r1 := denList cfg (enterScope cfg sc p mws) b1
    let base := denList cfg { r1.2 with grp := [] } b2
    (den cfg sc (.group p mws (b1 ++ .use hs :: b2))).1 = r1.1 ++ base.1.map (Route.pre (r1.2.grp ++ hs)) ∧
    (den cfg sc (.group p mws (b1 ++ b2))).1 = r1.1 ++ base.1.map (Route.pre r1.2.grp) ∧
    (den cfg sc (.group p mws (b1 ++ .use hs :: b2))).2 = (den cfg sc (.group p mws (b1 ++ b2))).2 := by
  have hp := denList_pfx cfg (enterScope cfg sc p mws) b1
  simp only [den, denList_append, denList, List.nil_append]
  generalize denList cfg (enterScope cfg sc p mws) b1 = r1 at hp ⊢
  -- inside the group the prefix is not empty, so the `Use` extends the group handlers
  have hin : r1.2.pfx ≠ [] := fun h => hne p (List.append_eq_nil_iff.mp (hp ▸ h)).2
  have huse : useScope r1.2 hs = { r1.2 with grp := r1.2.grp ++ hs } := if_pos hin
  rw [huse, denList_grp_eq_pre cfg r1.2 (r1.2.grp ++ hs), show denList cfg r1.2 b2 = _ from denList_grp_eq_pre cfg r1.2 r1.2.grp b2]
  simp [Scope.after, Scope.pre]

/-- inside a group `Use` never touches the global list (and outside it never touches a group list) -/
theorem C12_use_in_group_not_global (sc : Scope) (hs : List H) :
    (sc.pfx ≠ [] → (useScope sc hs).globals = sc.globals ∧ (useScope sc hs).grp = sc.grp ++ hs) ∧
    (sc.pfx = [] → (useScope sc hs).globals = sc.globals ++ hs ∧ (useScope sc hs).grp = sc.grp) := by
  constructor <;> intro h <;> simp [useScope, h]

/-- `Controller(p, c, mws...)` is `Group(p, func(){ c.AddRoutes(r) }, mws...)`, and
    `Resource(base, c, mws...)` with a valid controller is the group `base ++ name` around the
    `AddNamed` + `Use` calls of the implemented actions; an invalid controller panics before
    anything is registered. -/
theorem C12_resource_controller (cfg : Cfg) (st : RS) :
    (∀ p mws body, exec cfg st (.controller p mws body) = exec cfg st (.group p mws body)) ∧
    (∀ rd mws, rd.kind = .ptrStruct →
      exec cfg st (.resource rd mws) =
        exec cfg st (.group (rd.base ++ rd.resName) mws ((restRoutes rd).map Stmt.route))) ∧
    (∀ rd mws, rd.kind ≠ .ptrStruct → exec cfg st (.resource rd mws) = .error .badController) := by
  refine ⟨fun p mws body => by simp [exec], fun rd mws hk => ?_, fun rd mws hk => by simp [exec, hk]⟩
  simp only [exec, hk]
  rw [if_neg (by simp), execList_routes]

/-! ### non-vacuity: a three-level program with a `Use` between two routes of one group -/

namespace C12ex
def g1 : Bytes := [47, 97]        -- "/a"
def g2 : Bytes := [47, 98]        -- "/b"
def p1 : Bytes := [47, 120]       -- "/x"
def p2 : Bytes := [47, 121]       -- "/y"
def rd (id : Nat) (p : Bytes) (post : List (List H)) : RouteDef :=
  { id := id, main := id, name := [], methods := [[71, 69, 84]], path := p, pre := [], post := post }

/-- Use(1); Group("/a", {GET /x [4]; Use(5); Group("/b", {GET /y}, 6); GET /y [7]}, 2, 3); GET /x -/
def prog : List Stmt :=
  [.use [1],
   .group g1 [2, 3] [.route (rd 10 p1 [[4]]), .use [5], .group g2 [6] [.route (rd 11 p2 [[]])], .route (rd 12 p2 [[7]])],
   .route (rd 13 p1 [[]])]

def outcome (r : Except Err RS) : List (Nat × Bytes × List H) × List H × Bytes × List H :=
  match r with
  | .ok st => (st.routes.map fun r => (r.id, r.path, r.handlers), st.globals, st.pfx, st.grp)
  | .error _ => ([], [], [], [])
end C12ex

open C12ex in
example : outcome (execList (cleanCfg 63) RS.init prog) =
    ([(10, g1 ++ p1, [2, 3, 4]), (11, g1 ++ g2 ++ p2, [2, 3, 5, 6]), (12, g1 ++ p2, [2, 3, 5, 7]), (13, p1, [])],
     [1], [], []) := by decide +kernel

open C12ex in
example : CleanProg CleanPath prog := by
  simp only [CleanProg, CleanStmt, prog]; decide

open C12ex in
example : okCtrlList prog = true ∧
    ∀ r ∈ (denList (cleanCfg 63) RS.init.toScope prog).1, r.handlers.length < (cleanCfg 63).limit := by decide

/-- the hypotheses on the path functions are satisfiable: the driver's instance meets them -/
example : (∀ x, (cleanCfg 63).fmt x ≠ []) ∧ CleanFns (cleanCfg 63) CleanPath :=
  ⟨cleanFmt_ne, cleanFns 63⟩

/-! ### slices -/

/-- Slice level (backing arrays, capacities, ANY growth policy `pol`): run any program from any
    state that satisfies the separation invariant `Inv` (the fresh router does: `inv_init`, and
    every state reached by `hexecList` does again).  Then
    (1) what the slices show evolves exactly as the list-level interpreter `execList` says, so all
        list-level theorems (C12_denotation, …) hold for the real slices;
    (2) every route registered before is still registered and shows the SAME handler list — a
        registered route's handlers never change, although `Group`/`Use` append in place into
        backing arrays shared with saved slices of enclosing groups;
    (3) the invariant holds again.
    A panic at slice level is the same panic at list level. -/
theorem C12_no_alias (pol : Pol) (cfg : Cfg) (st : HS) (hi : Inv st) (prog : List Stmt) :
    (∀ st', hexecList pol cfg st prog = .ok st' →
      execList cfg st.abs prog = .ok st'.abs ∧
      (∀ r, r ∈ st.routes → r ∈ st'.routes ∧ read st'.heap r.handlers = read st.heap r.handlers) ∧
      Inv st') ∧
    (∀ e, hexecList pol cfg st prog = .error e → execList cfg st.abs prog = .error e) := by
  have h := hexecList_sim pol cfg st hi prog
  refine ⟨fun st' hr => ?_, h.2⟩
  obtain ⟨hs, hl⟩ := h.1 st' hr
  refine ⟨hl, fun r hmem => ⟨?_, (inv_read_route hi hs.ext hmem).1⟩, hs.inv⟩
  obtain ⟨new, hnew, _⟩ := hs.routes
  rw [hnew]; exact List.mem_append_left _ hmem

namespace C12heap
def g0 : Bytes := [47, 111]       -- "/o"
def gx : Bytes := [47, 120]       -- "/x"
def gy : Bytes := [47, 121]       -- "/y"
def pr : Bytes := [47, 114]       -- "/r"
def rd (id : Nat) : RouteDef :=
  { id := id, main := id, name := [], methods := [[71, 69, 84]], path := pr, pre := [], post := [[]] }
/-- Group("/o", { Group("/x", {GET /r}, 2); Group("/y", {GET /r}, 3) }, 1) -/
def prog : List Stmt :=
  [.group g0 [1] [.group gx [2] [.route (rd 10)], .group gy [3] [.route (rd 11)]]]
/-- every allocation gets two spare cells -/
def pol : Pol := ⟨fun _ => 2, 0⟩
def view (r : Except Err HS) : List H × List (List H) :=
  match r with
  | .ok st => (cells st.heap 0, st.routes.map fun r => read st.heap r.handlers)
  | .error _ => ([], [])
end C12heap

open C12heap in
/-- non-vacuity: the two sibling groups both appended IN PLACE into the array of the outer group's
    argument (its cell 1 first held 2, now holds 3), and the first route still shows [1, 2] -/
example : view (hexecList pol (cleanCfg 63) HS.init prog) = ([1, 3, 0], [[1, 2], [1, 3]]) := by decide +kernel

example : Inv HS.init := inv_init

end Rux
