import RuxModel.Lemmas.Transparent
import RuxModel.Props.C07
/-
  C06 — Unmatched requests resolve HEAD→GET, fallback route, 405/Allow, 404 in order.

  `quickPure` (Model/Quick.lean) IS the fixed order stated outright; C06_order says that `QuickMatch`
  (with or without cache, any option combination) computes exactly it.  The remaining theorems spell the
  clauses out one by one.

    "a direct match always takes precedence"                           C06_direct_first
    "a HEAD request is served by the matching GET route"               C06_head_get
    "otherwise, if fallback handling is enabled and a '/*' route exists for the method"  C06_fallback
    "otherwise … the allowed set equal to exactly those other methods" C06_not_allowed, C06_allow_exact,
                                                                       C06_allow_nodup
    "otherwise by the not-found handlers"                              C06_not_found
    "with InterceptAll(p) every request is resolved exactly as a request for p"   C06_intercept
    "by default 405 with a sorted Allow header, 200 for OPTIONS; by default 404"  C06_default_responses,
                                                                       C06_allow_sorted, C06_allow_perm
    which chain runs (route / not-allowed with the allowed set / not-found)       C06_chain
  All for every table, every option record, every method without '/', every path.
-/
namespace Rux

/-- `QuickMatch` computes exactly the stated order (any cache state reachable from registration) -/
theorem C06_order (o : Opts) (rs : List RouteM) (h : List (Bytes × Bytes))
    (hm : ∀ mp ∈ h, (0x2F : Nat) ∉ mp.1) :
    runQuick (build o rs) h = h.map fun mp => quickPure (build o rs) mp.1 mp.2 :=
  C07_history_is_pure o rs h hm

/-- the normalised path a request is looked up under -/
def lookupPath (rt : RouterM) (p0 : Bytes) : Bytes :=
  fmtPath rt.opts.strict (if rt.opts.intercept.isEmpty then p0 else rt.opts.intercept)

theorem quickPure_eq (rt : RouterM) (m p0 : Bytes) :
    quickPure rt m p0 =
      match lookupPure rt m (lookupPath rt p0) with
      | some (r, ps) => .route r ps
      | none => headPure rt m (lookupPath rt p0) := rfl

theorem C06_direct_first (rt : RouterM) (m p0 : Bytes) (r : RouteM) (ps : Params)
    (h : lookupPure rt m (lookupPath rt p0) = some (r, ps)) :
    quickPure rt m p0 = .route r ps := by
  rw [quickPure_eq, h]

theorem C06_head_get (rt : RouterM) (p0 : Bytes) (r : RouteM) (ps : Params)
    (h0 : lookupPure rt methodHEAD (lookupPath rt p0) = none)
    (h : lookupPure rt methodGET (lookupPath rt p0) = some (r, ps)) :
    quickPure rt methodHEAD p0 = .route r ps := by
  rw [quickPure_eq, h0]
  unfold headPure
  rw [if_pos rfl, h]

/-- everything before the `/*` step failed -/
def NoDirect (rt : RouterM) (m p0 : Bytes) : Prop :=
  lookupPure rt m (lookupPath rt p0) = none ∧
  (m = methodHEAD → lookupPure rt methodGET (lookupPath rt p0) = none)

theorem quickPure_tail {rt : RouterM} {m p0 : Bytes} (h : NoDirect rt m p0) :
    quickPure rt m p0 = tailPure rt m (lookupPath rt p0) := by
  rw [quickPure_eq, h.1]
  unfold headPure
  by_cases hh : m = methodHEAD
  · rw [if_pos hh, h.2 hh]
  · rw [if_neg hh]

theorem C06_fallback (rt : RouterM) (m p0 : Bytes) (r : RouteM) (h : NoDirect rt m p0)
    (hf : rt.opts.fallback = true) (hr : alistGet rt.stable (m ++ slashStar) = some r) :
    quickPure rt m p0 = .route r [] := by
  rw [quickPure_tail h]; unfold tailPure; rw [if_pos hf, hr]

theorem tailPure_no_fallback {rt : RouterM} {m q : Bytes}
    (hf : rt.opts.fallback = false ∨ alistGet rt.stable (m ++ slashStar) = none) :
    tailPure rt m q =
      if rt.opts.notAllowed then
        if (allowedPure rt m q).isEmpty then .notFound else .allowed (allowedPure rt m q)
      else .notFound := by
  unfold tailPure
  rcases hf with hf | hf
  · rw [hf]; rfl
  · rw [hf, ite_self]

theorem C06_not_allowed (rt : RouterM) (m p0 : Bytes) (h : NoDirect rt m p0)
    (hf : rt.opts.fallback = false ∨ alistGet rt.stable (m ++ slashStar) = none)
    (hna : rt.opts.notAllowed = true) (hne : allowedPure rt m (lookupPath rt p0) ≠ []) :
    quickPure rt m p0 = .allowed (allowedPure rt m (lookupPath rt p0)) := by
  rw [quickPure_tail h, tailPure_no_fallback hf, if_pos hna, if_neg (mt List.isEmpty_iff.mp hne)]

theorem C06_not_found (rt : RouterM) (m p0 : Bytes) (h : NoDirect rt m p0)
    (hf : rt.opts.fallback = false ∨ alistGet rt.stable (m ++ slashStar) = none)
    (hna : rt.opts.notAllowed = false ∨ allowedPure rt m (lookupPath rt p0) = []) :
    quickPure rt m p0 = .notFound := by
  rw [quickPure_tail h, tailPure_no_fallback hf]
  rcases hna with hna | hna
  · rw [hna]; rfl
  · rw [hna]; exact ite_self _

/-- the allowed set is exactly: the supported methods other than the request's own under which the path
    matches a route -/
theorem C06_allow_exact (rt : RouterM) (method path m' : Bytes) :
    m' ∈ allowedPure rt method path ↔
      m' ∈ anyMethodsB ∧ m' ≠ method ∧ (lookupPure rt m' path).isSome = true := by
  unfold allowedPure
  simp [List.mem_filter]

theorem C06_allow_nodup (rt : RouterM) (method path : Bytes) : (allowedPure rt method path).Nodup :=
  List.Nodup.sublist List.filter_sublist anyMethodsB_nodup

/-- with `InterceptAll(p)` the requested path is irrelevant -/
theorem C06_intercept (rt : RouterM) (m x y : Bytes) (h : rt.opts.intercept.isEmpty = false) :
    quickPure rt m x = quickPure rt m y := by
  unfold quickPure; simp only [h]; rfl

/-- which chain runs -/
theorem C06_chain (o : Obs) :
    (∀ r ps, o = .route r ps → chainOf o = .route r ps) ∧
    (∀ ms, o = .allowed ms → chainOf o = .notAllowed ms) ∧
    (o = .notFound → chainOf o = .notFound) :=
  ⟨fun _ _ h => h ▸ rfl, fun _ h => h ▸ rfl, fun h => h ▸ rfl⟩

/-- the default handlers: 404; 405 with the Allow header, or 200 for OPTIONS -/
theorem C06_default_responses (method : Bytes) (ms : List Bytes) :
    defaultResp method .notFound = some .status404 ∧
    (method = methodOPTIONS → defaultResp method (.notAllowed ms) =
        some (.options200 (Bytes.join [0x2C, 0x20] (sortBytes ms)))) ∧
    (method ≠ methodOPTIONS → defaultResp method (.notAllowed ms) =
        some (.status405 (Bytes.join [0x2C, 0x20] (sortBytes ms)))) :=
  ⟨rfl, fun h => if_pos h, fun h => if_neg h⟩

/-- the list in the Allow header is sorted (and a permutation of the allowed set) -/
def SortedB : List Bytes → Prop
  | [] => True
  | [_] => True
  | a :: b :: t => bytesLt b a = false ∧ SortedB (b :: t)

theorem bytesLt_irrefl : ∀ a : Bytes, bytesLt a a = false := by
  intro a; induction a with
  | nil => rfl
  | cons x t ih => simp [bytesLt, ih]

theorem bytesLt_asymm {a b : Bytes} : bytesLt a b = true → bytesLt b a = false := by
  fun_induction bytesLt a b with
  | case1 => exact nofun
  | case2 => exact fun _ => rfl
  | case3 => exact nofun
  | case4 a s b t hlt => intro _; rw [bytesLt, if_neg (Nat.lt_asymm hlt), if_pos hlt]
  | case5 a s b t hlt hgt => exact nofun
  | case6 a s b t hlt hgt ih => intro h; rw [bytesLt, if_neg hgt, if_neg hlt]; exact ih h

theorem insertSorted_sorted (x : Bytes) (l : List Bytes) (hs : SortedB l) : SortedB (insertSorted x l) := by
  fun_induction insertSorted x l with
  | case1 => trivial
  | case2 y t h ih =>
    -- `y` stays in front; what follows it is `x` or the old second element
    cases t with
    | nil => exact ⟨bytesLt_asymm h, trivial⟩
    | cons z t' =>
      have := ih hs.2
      by_cases h2 : bytesLt z x = true
      · rw [insertSorted, if_pos h2] at this ⊢; exact ⟨hs.1, this⟩
      · rw [insertSorted, if_neg h2] at this ⊢; exact ⟨bytesLt_asymm h, this⟩
  | case3 y t h => exact ⟨by simpa using h, hs⟩

theorem C06_allow_sorted (ms : List Bytes) : SortedB (sortBytes ms) :=
  List.foldrRecOn (motive := SortedB) ms insertSorted trivial fun l hl a _ => insertSorted_sorted a l hl

theorem insertSorted_perm (x : Bytes) (l : List Bytes) : (insertSorted x l).Perm (x :: l) := by
  fun_induction insertSorted x l with
  | case1 => exact .refl _
  | case2 y t _ ih => exact (ih.cons y).trans (.swap x y t)
  | case3 => exact .refl _

theorem C06_allow_perm (ms : List Bytes) : (sortBytes ms).Perm ms := by
  unfold sortBytes
  induction ms with
  | nil => exact List.Perm.refl _
  | cons a t ih => simp only [List.foldr_cons]; exact (insertSorted_perm a _).trans (List.Perm.cons a ih)

end Rux
