import RuxModel.Props.C10
/-
  C09 — A panicking handler is contained and leaves the router healthy.

  Statement (properties.jsonl): "If a handler panics at any point of the chain and a panic hook (OnPanic) is
  installed, the panic does not escape ServeHTTP, the hook runs exactly once with the recovered value
  available under the documented context key, no later handler runs, and the response is committed with the
  status and body the hook produced; without a hook the panic propagates to the caller unchanged.  In both
  cases the router stays fully usable: subsequent requests behave as if the panic had never happened."

  Model: Model/Dispatch.lean.  "A handler panics at any point of the chain" is the hypothesis
  `body cfg rq c = (st, some (.panic v))`: the part of handleHTTPRequest below the `defer` — the chain of ANY
  shape and length (global/group/route middleware, main handler, custom or default 404/405 chain, `Next()`
  anywhere, any number of times) followed by the OnError handler — ended in a panic with value `v`, in
  state `st`.  That covers every panic position, explicit `panic(v)` as well as runtime errors.

  clause                                                     theorem
  ----------------------------------------------------------------------------------------------------------
  the panic does not escape ServeHTTP                        C09_hook_once (1st part), C09_hook_contained_serve
  the hook runs exactly once                                 C09_hook_once, C09_hook_count
  … with the recovered value under CTXRecoverResult          C09_hook_once (`mapGet … keyRecover`), C09_hook_reads_value
  no later handler runs, suspended handlers do not resume    C09_hook_once (shape of the trace), C09_nothing_after_panic
  response committed with the hook's status and body         C09_hook_response_nothing / _status / _status_body
      (nothing ⇒ 200 or the status set before the panic;      (+ the `…_committed` variants: already committed
       status only; status + body)                             before the panic ⇒ no second commit), C09_committed,
                                                              C09_hook_response_default_200,
                                                              C09_length_invariant
  without a hook the panic propagates unchanged              C09_no_hook_propagates
  the router stays usable (every later request = fresh)      C09_healthy, C09_healthy_reconfigured
                                                              (+ C09_lost_context_never_reused,
                                                              C10_serve_as_fresh, C10_pool_invariant)
  the theorems speak about every chain rux accepts           C09_in_model (≤ 64 handlers ⇒ never `Stop.off`)
  in-chain PanicsHandler                                     C09_panicsHandler_recovers, C09_panicsHandler_500,
                                                              C09_panicsHandler_dispatch

  Honest notes
  * A hook that panics itself is not "contained": the new value propagates (`C09_hook_panics`, Go semantics
    of a panic inside a deferred function).  The statement is about hooks that produce a response.
  * `PanicsHandler` does NOT abort the chain: after it has recovered, the `Next()` loop of its caller goes on
    with the handler after the one that panicked (`C09_panicsHandler_recovers` says exactly that), so later
    handlers still run (example below: body "MAIN" with status 500) and a second panic is not caught.
    `C09_panicsHandler_dispatch` is therefore stated for a panic in the last handler (or after an abort).
  * `panic(nil)` is not modelled (with `GODEBUG=panicnil=1`, the default for a main module with `go < 1.21`
    in go.mod, `recover()` returns nil and the deferred function neither runs the hook nor commits).
  * Not proved here: that the Go code is the model (sampled by the engines `panic` and `ctx`).
-/
namespace Rux
open Rux.Dispatch

/-! ### hook installed -/

/-- With a hook, a panic anywhere below the `defer`:
    * the hook starts in the state the panic left, with the recovered value stored under `CTXRecoverResult`;
    * if the hook does not panic itself, `handleHTTPRequest` RETURNS (result `none`), after
      `ensureWriteHeader`;
    * the trace is: everything up to the panic point (events of the chain only, the last one being the panic
      itself), then "hook starts", the hook's own events, "hook returns" — so no handler starts and no
      suspended handler resumes after the panic point, and the hook runs once. -/
theorem C09_hook_once (cfg : Cfg) (rq : Req) (c : Ctx) (hk : List SAct) (st : St) (v : PVal)
    (hh : cfg.hook = some hk) (hb : body cfg rq c = (st, some (.panic v))) :
    mapGet (hookStart v st).ctx.data keyRecover = some (.pv v) ∧
    ∀ st', runS .hook hk (hookStart v st) = (st', none) →
      handleRequest cfg rq c = (ensureWH (st'.ev .hookLeave), none) ∧
      ∃ pre p H, st.trace = pre ++ [.panicked p v] ∧
        (∀ e ∈ pre ++ [.panicked p v], e.zone = .chain) ∧ (∀ e ∈ H, e.zone = .hook) ∧
        (handleRequest cfg rq c).1.trace = pre ++ [.panicked p v] ++ [.hookEnter] ++ H ++ [.hookLeave] := by
  refine ⟨mapGet_mapSet_same .., fun st' hr => ?_⟩
  have hret : handleRequest cfg rq c = (ensureWH (st'.ev .hookLeave), none) := by
    rw [handleRequest_hook hh hb, hr]; rfl
  obtain ⟨pre, p, hst, hz⟩ := body_panic_trace hb
  obtain ⟨H, hH, hzH, _⟩ := (runS_run .hook hk (hookStart v st)).trace
  rw [hr] at hH
  refine ⟨hret, pre, p, H, hst, hz, hzH, ?_⟩
  rw [hret, ← hst]
  exact (ensureWH_trace _).trans (congrArg (· ++ [TEv.hookLeave]) hH)

/-- the hook runs exactly once -/
theorem C09_hook_count (cfg : Cfg) (rq : Req) (c : Ctx) (hk : List SAct) (st st' : St) (v : PVal)
    (hh : cfg.hook = some hk) (hb : body cfg rq c = (st, some (.panic v)))
    (hr : runS .hook hk (hookStart v st) = (st', none)) :
    (handleRequest cfg rq c).1.trace.count .hookEnter = 1 := by
  obtain ⟨_, pre, p, H, _, hz, hzH, ht⟩ := (C09_hook_once cfg rq c hk st v hh hb).2 st' hr
  have hno : ∀ {l : List TEv} {q : Zone}, (∀ e ∈ l, e.zone = q) → q ≠ .frame → l.count .hookEnter = 0 :=
    fun hl hq => List.count_eq_zero.mpr fun hm => hq (hl _ hm).symm
  rw [ht, List.count_append, List.count_append, List.count_append, hno hz (by decide), hno hzH (by decide)]
  rfl

/-- nothing of the chain after the panic point: every event after the `panicked` mark is one of the hook -/
theorem C09_nothing_after_panic (cfg : Cfg) (rq : Req) (c : Ctx) (hk : List SAct) (st st' : St) (v : PVal)
    (hh : cfg.hook = some hk) (hb : body cfg rq c = (st, some (.panic v)))
    (hr : runS .hook hk (hookStart v st) = (st', none)) :
    ∃ pre p post, (handleRequest cfg rq c).1.trace = pre ++ [.panicked p v] ++ post ∧
      (∀ e ∈ pre, e.zone = .chain) ∧ p.zone = .chain ∧
      ∀ e ∈ post, ∀ i, e ≠ .enter i ∧ e ≠ .leave i ∧ (∀ t, e ≠ .mark (.h i) t) ∧ e ≠ .errEnter ∧ e ≠ .errLeave := by
  obtain ⟨_, pre, p, H, _, hz, hzH, ht⟩ := (C09_hook_once cfg rq c hk st v hh hb).2 st' hr
  obtain ⟨hpre, hp⟩ := List.forall_mem_append.mp hz
  -- what follows the panic is the hook between its two marks: no chain event …
  have hpost : ∀ e ∈ [.hookEnter] ++ H ++ [.hookLeave], e.zone ≠ .chain := by
    simp only [List.forall_mem_append, List.forall_mem_singleton]
    exact ⟨⟨by decide, fun e he => by rw [hzH e he]; decide⟩, by decide⟩
  refine ⟨pre, p, [.hookEnter] ++ H ++ [.hookLeave], by rw [ht]; simp only [List.append_assoc], hpre,
    hp _ (List.mem_singleton_self _), fun e he i => ?_⟩
  -- … and all the events named are chain events
  have hne : ∀ x : TEv, x.zone = .chain → e ≠ x := fun x hx he' => hpost e he (he' ▸ hx)
  exact ⟨hne _ rfl, hne _ rfl, fun t => hne _ rfl, hne _ rfl, hne _ rfl⟩

/-- a hook that starts by reading `CTXRecoverResult` reads exactly the value the handler panicked with -/
theorem C09_hook_reads_value (cfg : Cfg) (rq : Req) (c : Ctx) (hk : List SAct) (st st' : St) (v : PVal)
    (hh : cfg.hook = some (.get keyRecover :: hk)) (hb : body cfg rq c = (st, some (.panic v)))
    (hr : runS .hook (.get keyRecover :: hk) (hookStart v st) = (st', none)) :
    ∃ post, (handleRequest cfg rq c).1.trace =
      st.trace ++ [.hookEnter, .got .hook keyRecover (some (.pv v))] ++ post := by
  obtain ⟨hget, hret⟩ := C09_hook_once cfg rq c _ st v hh hb
  have hret := (hret st' hr).1
  rw [runS] at hr
  simp only [stepS, hget] at hr
  obtain ⟨H, hH, _, _⟩ := (runS_run .hook hk ((hookStart v st).ev (.got .hook keyRecover (some (.pv v))))).trace
  rw [hr] at hH
  simp only [liftP, hookStart, St.ev] at hH
  exact ⟨H ++ [.hookLeave], by rw [hret]; simp [ensureWH_trace, St.ev, hH]⟩

/-- at the level of `ServeHTTP`: it returns, and the context goes back to the pool -/
theorem C09_hook_contained_serve (cfg : Cfg) (pool : List Ctx) (pick : Option Nat) (rq : Req)
    (hk : List SAct) (st st' : St) (v : PVal) (hh : cfg.hook = some hk)
    (hb : body cfg rq ((poolGet cfg.rid pool pick).1.init rq.w rq.r) = (st, some (.panic v)))
    (hr : runS .hook hk (hookStart v st) = (st', none)) :
    (serve cfg pool pick rq).1.outcome = .returned ∧
    (serve cfg pool pick rq).2 = (ensureWH (st'.ev .hookLeave)).ctx :: (poolGet cfg.rid pool pick).2 := by
  have h := ((C09_hook_once cfg rq _ hk st v hh hb).2 st' hr).1
  simp [serve, Result.ofOut, h]

/-- a hook that panics itself: the new value propagates (and nothing is committed by rux) -/
theorem C09_hook_panics (cfg : Cfg) (rq : Req) (c : Ctx) (hk : List SAct) (st st' : St) (v v' : PVal)
    (hh : cfg.hook = some hk) (hb : body cfg rq c = (st, some (.panic v)))
    (hr : runS .hook hk (hookStart v st) = (st', some v')) :
    handleRequest cfg rq c = (st', some (.panic v')) := by
  rw [handleRequest_hook hh hb, hr]; rfl

/-! ### the response the hook produced -/

/-- the writer's `length` is never below `noWritten` (-1) in a state reached from an initialised context -/
theorem C09_length_invariant (cfg : Cfg) (rq : Req) (c : Ctx) (w r : Nat) :
    noWritten ≤ (body cfg rq (c.init w r)).1.ctx.writer.length := by
  apply (body_run cfg rq (c.init w r)).wlen
  obtain ⟨_, _, kind, _⟩ := rq
  cases kind <;> exact Int.le_refl _

/-- the hook does nothing: the commit is the status set before the panic, 200 if none was set —
    and nothing at all when the response was already committed before the panic -/
theorem C09_hook_response_nothing (cfg : Cfg) (rq : Req) (c : Ctx) (st : St) (v : PVal)
    (hh : cfg.hook = some []) (hb : body cfg rq c = (st, some (.panic v))) :
    (handleRequest cfg rq c).2 = none ∧
    (handleRequest cfg rq c).1.log = st.log ++ commitOf st.ctx.writer := by
  rw [((C09_hook_once cfg rq c [] st v hh hb).2 _ rfl).1]
  exact ⟨rfl, by rw [ensureWH_log]; rfl⟩

/-- nothing set anywhere, nothing committed before the panic ⇒ exactly `WriteHeader(200)` -/
theorem C09_hook_response_default_200 (cfg : Cfg) (rq : Req) (c : Ctx) (st : St) (v : PVal)
    (hh : cfg.hook = some []) (hb : body cfg rq c = (st, some (.panic v)))
    (hs : st.ctx.writer.status = 0) (hl : st.ctx.writer.length = noWritten) :
    (handleRequest cfg rq c).1.log = st.log ++ [.wh (.under st.ctx.writer.under) 200] := by
  rw [(C09_hook_response_nothing cfg rq c st v hh hb).2]
  simp [commitOf, hs, hl]

/-- the hook only sets a status (F8): that status is committed — unless the response was committed before
    the panic, then nothing more is sent -/
theorem C09_hook_response_status (cfg : Cfg) (rq : Req) (c : Ctx) (st : St) (v : PVal) (code : Int)
    (hh : cfg.hook = some [.setStatus code]) (hb : body cfg rq c = (st, some (.panic v))) (hc : code > 0) :
    (handleRequest cfg rq c).2 = none ∧
    (handleRequest cfg rq c).1.log =
      st.log ++ (if st.ctx.writer.length = noWritten then [.wh (.under st.ctx.writer.under) code] else []) := by
  rw [((C09_hook_once cfg rq c _ st v hh hb).2 _ rfl).1]
  rw [ensureWH_log]
  -- `hookStart v st` has `st`'s writer and log, so the commit is that of `st.ctx.writer` with status `code`
  simp [ownWriteHeader_pos hc, commitOf, hookStart, St.ev, Ctx.set, Int.ne_of_gt hc]

/-- the hook sets a status and writes a body through `c.Resp` (= the context's own writer): status, then body;
    already committed before the panic ⇒ only the body follows.  (`hl` holds for every state reached from an
    initialised context: `C09_length_invariant`.) -/
theorem C09_hook_response_status_body (cfg : Cfg) (rq : Req) (c : Ctx) (st : St) (v : PVal) (code : Int)
    (b : Bytes) (hh : cfg.hook = some [.setStatus code, .write b])
    (hb : body cfg rq c = (st, some (.panic v))) (hc : code > 0) (hr : st.ctx.resp = .own)
    (hl : noWritten ≤ st.ctx.writer.length) :
    (handleRequest cfg rq c).2 = none ∧
    (handleRequest cfg rq c).1.log =
      st.log ++ (if st.ctx.writer.length = noWritten then [.wh (.under st.ctx.writer.under) code] else []) ++
        [.wr (.under st.ctx.writer.under) b] := by
  have hrun : runS .hook [.setStatus code, .write b] (hookStart v st) =
      (ownWrite (ownWriteHeader (hookStart v st) code) b, none) := by
    simp [runS, stepS, ownWriteHeader_pos hc, hookStart, St.ev, Ctx.set, hr]
  rw [((C09_hook_once cfg rq c _ st v hh hb).2 _ hrun).1]
  refine ⟨rfl, ?_⟩
  -- the closing `ensureWriteHeader` sends nothing: the hook's `Write` has committed the header (`hl` is needed here)
  have hcom := ownWrite_committed ((ownWriteHeader_run (q := .hook) (hookStart v st) code).wlen hl) b
  rw [ensureWH_log]
  show (ownWrite _ b).log ++ commitOf (ownWrite _ b).ctx.writer = _
  rw [commitOf, if_neg hcom, ownWrite_log]
  simp [ownWriteHeader_pos hc, commitOf, hookStart, St.ev, Ctx.set, Int.ne_of_gt hc]

/-- whatever the hook does (as long as it returns): when `handleHTTPRequest` returns, the header is committed -/
theorem C09_committed (cfg : Cfg) (rq : Req) (c : Ctx) (hk : List SAct) (st st' : St) (v : PVal)
    (hh : cfg.hook = some hk) (hb : body cfg rq c = (st, some (.panic v)))
    (hr : runS .hook hk (hookStart v st) = (st', none)) :
    (handleRequest cfg rq c).1.ctx.writer.length ≠ noWritten := by
  rw [((C09_hook_once cfg rq c hk st v hh hb).2 st' hr).1]
  exact ensureWH_committed _

/-! ### no hook -/

/-- without a hook the panic reaches the caller of `ServeHTTP` with the SAME value — the value of the panic
    event that ends the trace —, nothing is committed by rux on the way, and the context is NOT put back -/
theorem C09_no_hook_propagates (cfg : Cfg) (pool : List Ctx) (pick : Option Nat) (rq : Req) (st : St) (v : PVal)
    (hh : cfg.hook = none)
    (hb : body cfg rq ((poolGet cfg.rid pool pick).1.init rq.w rq.r) = (st, some (.panic v))) :
    (serve cfg pool pick rq).1 = { outcome := .stopped (.panic v), trace := st.trace, log := st.log } ∧
    (∃ pre p, st.trace = pre ++ [.panicked p v]) ∧
    (serve cfg pool pick rq).2 = (poolGet cfg.rid pool pick).2 := by
  have hr := (handleRequest_no_hook cfg rq _ hh).trans hb
  refine ⟨by simp [serve, Result.ofOut, hr], ?_, by simp [serve, hr]⟩
  obtain ⟨pre, p, hst, _⟩ := body_panic_trace hb
  exact ⟨pre, p, hst⟩

/-! ### the router stays healthy -/

/-- a context whose request ended with a propagated panic (or left the model) is in no later pool:
    the pool after the request is the pool before it minus the context that was taken -/
theorem C09_lost_context_never_reused (cfg : Cfg) (pool : List Ctx) (pick : Option Nat) (rq : Req)
    (h : (serve cfg pool pick rq).1.outcome ≠ .returned) :
    (serve cfg pool pick rq).2 = (poolGet cfg.rid pool pick).2 := by
  simp only [serve, Result.ofOut] at h ⊢
  split
  · rename_i heq; simp [heq] at h
  · rfl

/-- For every history — requests that panic with or without hook at any point, mixed with any others, any
    choice of pooled context, losses from the pool — every request's complete result (returned or panicked and
    with what, everything its handlers did and observed, everything sent to its writer) is what the same
    request gives as the first request on a fresh identical router: "as if the panic had never happened".
    Two facts make it true: a context that is put back (hook case: in whatever state the panic left it) is
    re-initialised by `Init` before any handler sees it (`C10_serve_as_fresh`), and a context whose panic
    propagated never comes back (`C09_lost_context_never_reused`). -/
theorem C09_healthy (cfg : Cfg) (steps : List Step) (pool : List Ctx) (h : PoolOk cfg.rid pool) :
    (runHist cfg pool steps).1 = (Step.reqs steps).map (serveFresh cfg) :=
  C10_history cfg steps pool h

/-- the same when the router is reconfigured between the requests (OnPanic / OnError installed, replaced or
    removed at any time): each request's result is its result on a fresh router with the configuration of
    that moment -/
theorem C09_healthy_reconfigured (rid : Nat) (steps : List (Cfg × Option Nat × Req)) (pool : List Ctx)
    (h : PoolOk rid pool) (hc : ∀ s ∈ steps, s.1.rid = rid) :
    runHistCfg pool steps = steps.map (fun s => serveFresh s.1 s.2.2) := by
  induction steps generalizing pool with
  | nil => rfl
  | cons s rest ih =>
    obtain ⟨cfg, pick, rq⟩ := s
    have hr : cfg.rid = rid := hc (cfg, pick, rq) (by simp)
    subst hr
    simp only [runHistCfg, List.map_cons]
    rw [C10_serve_as_fresh cfg pool pick rq h]
    rw [ih _ (C10_pool_invariant cfg pool pick rq h) (fun s hs => hc s (List.mem_cons_of_mem _ hs))]

/-- the model covers every chain rux accepts: with at most 64 handlers in the chain (registration refuses 63
    and more per route and for the globals), `handleHTTPRequest` never leaves the modelled fragment
    (`Stop.off` = "Abort moved the cursor backwards") — so every theorem above speaks about all such requests -/
theorem C09_in_model (cfg : Cfg) (rq : Req) (c : Ctx) (hlen : rq.chain.length ≤ 64) (hidx : c.index = -1) :
    (handleRequest cfg rq c).2 ≠ some .off := by
  have hidx' := start_index rq c hidx
  have hl := loop_noOff hlen rq.chain 0 (start rq c) (by simp) ⟨rfl, by rw [hidx']; decide⟩
  -- `off` can only come out of the loop: OnError, the hook and `ensureWriteHeader` return or panic
  have hb : (body cfg rq c).2 ≠ some .off := by
    rw [body_eq]
    exact Out.andThen_noOff hl fun s1 _ => Out.andThen_noOff liftP_noOff fun _ _ => by simp
  rcases handleRequest_cases cfg rq c with h | ⟨hk, st, v, hh, hst⟩
  · rw [h]; exact hb
  · rw [handleRequest_hook hh hst]; exact Out.andThen_noOff liftP_noOff fun _ _ => by simp

/-! ### the in-chain `PanicsHandler` -/

/-- `PanicsHandler` at position `i`, reached by the loop: a panic raised anywhere below its `c.Next()` does not
    pass it.  It calls `c.Resp.WriteHeader(500)` and returns; the `Next()` loop of ITS caller then goes on
    after the handler that panicked (the chain is NOT aborted). -/
theorem C09_panicsHandler_recovers (i : Nat) (rest : List Handler) (st st2 : St) (v : PVal)
    (hlt : st.ctx.index < st.last) (hi : st.ctx.index + 1 = (i : Int))
    (hp : loop (i + 1) rest { st with ctx := { st.ctx with index := st.ctx.index + 1 } } = (st2, some (.panic v)))
    (hresp : st2.ctx.resp ≠ .nil) :
    (respWriteHeader (.h i) st2 500).2 = none ∧
    loop i (.panicsHandler :: rest) st = loop (i + 1) rest (respWriteHeader (.h i) st2 500).1 := by
  have hn : (respWriteHeader (.h i) st2 500).2 = none := by
    fun_cases respWriteHeader (.h i) st2 500
    case case3 h => exact absurd h hresp
    all_goals rfl
  refine ⟨hn, ?_⟩
  rw [loop_due hlt hi]
  show (recover500 i (loop (i + 1) rest st.bump)).andThen _ = _
  rw [show loop (i + 1) rest st.bump = _ from hp]
  simp only [recover500, liftP, hn, Option.map_none, Out.andThen]

/-- … and 500 is recorded as the status of the response (when `c.Resp` is still the context's own writer);
    it is what gets committed later unless the header was committed before or a later handler changes it -/
theorem C09_panicsHandler_500 (i : Nat) (st2 : St) (hresp : st2.ctx.resp = .own) :
    (respWriteHeader (.h i) st2 500).1.ctx.writer.status = 500 ∧
    (respWriteHeader (.h i) st2 500).1.log = st2.log ∧
    (respWriteHeader (.h i) st2 500).1.ctx.writer.length = st2.ctx.writer.length := by
  simp [respWriteHeader, hresp, ownWriteHeader_pos]

/-- whole dispatch with `PanicsHandler` as the first global middleware and a panic in the LAST handler of the
    chain (or after an abort: the cursor is at or past the end): `handleHTTPRequest` returns, and the client
    gets `WriteHeader(500)` — or nothing more, when the header had been committed before the panic -/
theorem C09_panicsHandler_dispatch (cfg : Cfg) (rq : Req) (c : Ctx) (rest : List Handler) (st2 : St) (v : PVal)
    (hc : rq.chain = .panicsHandler :: rest) (hidx : c.index = -1)
    (hp : loop 1 rest { start rq c with ctx := { (start rq c).ctx with index := 0 } } = (st2, some (.panic v)))
    (hresp : st2.ctx.resp = .own) (hend : ¬ st2.ctx.index < st2.last) (herr : st2.ctx.errors = []) :
    (handleRequest cfg rq c).2 = none ∧
    (handleRequest cfg rq c).1.log =
      st2.log ++ (if st2.ctx.writer.length = noWritten then [.wh (.under st2.ctx.writer.under) 500] else []) := by
  have hidx' := start_index rq c hidx
  have hlt : (start rq c).ctx.index < (start rq c).last := by
    simp only [St.last, hidx']
    simp only [start, hc, List.length_cons]; omega
  -- after the recovery (500 recorded, nothing else touched) nothing is left to run
  obtain ⟨_, hloop⟩ := C09_panicsHandler_recovers 0 rest (start rq c) st2 v hlt (by rw [hidx']; rfl)
    (by rw [hidx']; exact hp) (by rw [hresp]; nofun)
  have hbody : body cfg rq c = (ensureWH (ownWriteHeader st2 500), none) := by
    rw [body_eq, hc, hloop]
    simp only [respWriteHeader, hresp]
    -- `by exact`: the state is read off the goal; it has the cursor and handlers of `st2`, of which `hend` speaks
    rw [ownWriteHeader_pos (by decide), loop_done (by exact hend)]
    simp only [runOnError, herr]
    cases cfg.onError <;> rfl
  -- the body returned, so the hook does not come into it
  have hres : handleRequest cfg rq c = body cfg rq c := by
    rcases handleRequest_cases cfg rq c with h | ⟨_, _, _, _, hb⟩
    · exact h
    · rw [hbody] at hb; cases hb
  rw [hres, hbody, ensureWH_log, ownWriteHeader_pos (by decide)]
  exact ⟨rfl, by simp [commitOf]⟩

/-! ### non-vacuity -/

namespace C09Ex

def boom : PVal := .str [98, 111, 111, 109]

/-- three middlewares around a main handler; the 2nd panics AFTER `Next()` returned, two handlers are suspended -/
def chain1 : List Handler :=
  [ .acts [.s (.emit 1), .next, .s (.emit 2)],
    .acts [.s (.emit 3), .next, .s (.panic boom), .s (.emit 4)],
    .acts [.s (.emit 5), .next, .s (.emit 6)],
    .acts [.s (.emit 7)] ]

def rq1 : Req := { w := 1, r := 1, kind := Kind.notFound, chain := chain1 }
def cfgStatus : Cfg := { rid := 7, hook := some [.get keyRecover, .setStatus 500], onError := none }
def cfgNone : Cfg := { rid := 7, hook := none, onError := none }
def c0 : Ctx := (newCtx 7).init 1 1

-- the hypothesis of the hook theorems is met: the body ends in a panic with that value …
example : (body cfgStatus rq1 c0).2 = some (.panic boom) := rfl
-- … and the whole trace is as the theorems say: handlers 2 and 3 ran completely, 1 panicked after its Next(),
-- handler 0 never resumed (no `mark 0 2`, no `leave 0`), the hook ran once and read the value
example : (serve cfgStatus [] none rq1).1 =
    { outcome := .returned,
      trace := [.enter 0, .mark (.h 0) 1, .enter 1, .mark (.h 1) 3, .enter 2, .mark (.h 2) 5, .enter 3, .mark (.h 3) 7,
                .leave 3, .mark (.h 2) 6, .leave 2, .panicked (.h 1) boom,
                .hookEnter, .got .hook keyRecover (some (.pv boom)), .hookLeave],
      log := [.wh (.under (some 1)) 500] } := by decide +kernel
-- without hook: the same value propagates, nothing is committed, the context is lost
example : (serve cfgNone [] none rq1).1.outcome = .stopped (.panic boom) ∧ (serve cfgNone [] none rq1).1.log = [] ∧
    (serve cfgNone [] none rq1).2 = [] := ⟨rfl, rfl, rfl⟩

-- panic in the OnError handler, and a runtime panic (write to nil Params) in a custom 404 chain
example : (serve { rid := 7, hook := some [], onError := some [.panic (.int 3)] } [] none
    { w := 1, r := 1, kind := Kind.notFound, chain := [.acts [.s (.addError [101])]] }).1 =
    { outcome := .returned,
      trace := [.enter 0, .leave 0, .errEnter, .panicked .onErr (.int 3), .hookEnter, .hookLeave],
      log := [.wh (.under (some 1)) 200] } := rfl
example : (serve cfgStatus [] none { w := 1, r := 1, kind := Kind.notFound, chain := [.acts [.s (.setParam [112] [120])]] }).1.trace =
    [.enter 0, .panicked (.h 0) .rtNilMap, .hookEnter, .got .hook keyRecover (some (.pv .rtNilMap)), .hookLeave] := by
  decide +kernel

-- PanicsHandler does not abort: after the recovery the main handler still runs (body "MAIN" under status 500) …
def rqPH1 : Req := { w := 1, r := 1, kind := Kind.notFound, chain := [.panicsHandler, .acts [.s (.panic boom)], .acts [.s (.write [77])]] }
def rqPH2 : Req := { w := 1, r := 1, kind := Kind.notFound, chain := [.panicsHandler, .acts [.s (.panic boom)], .acts [.s (.panic (.int 2))]] }
example : (serve cfgNone [] none rqPH1).1 =
    { outcome := .returned, trace := [.enter 1, .panicked (.h 1) boom, .enter 2, .leave 2],
      log := [.wh (.under (some 1)) 500, .wr (.under (some 1)) [77]] } := rfl
-- … and a second panic after the recovery is not caught by it
example : (serve cfgNone [] none rqPH2).1.outcome =
    .stopped (.panic (.int 2)) := rfl
-- the hypotheses of C09_panicsHandler_dispatch are met by a panic in the last handler
def rqPH : Req :=
  { w := 1, r := 1, kind := Kind.notFound, chain := [.panicsHandler, .acts [.next], .acts [.s (.panic boom)]] }
def outPH : Out := loop 1 [.acts [.next], .acts [.s (.panic boom)]]
  { start rqPH c0 with ctx := { (start rqPH c0).ctx with index := 0 } }
example : outPH.2 = some (.panic boom) ∧ outPH.1.ctx.resp = .own ∧ ¬ outPH.1.ctx.index < outPH.1.last ∧
    outPH.1.ctx.errors = [] := by decide

-- a history: panic with hook, panic without … every later request equals its fresh self (instance of C09_healthy)
example : (runHist cfgStatus [] [.req none rq1, .req (some 0) { rq1 with w := 2, r := 2 },
      .req (some 0) { w := 3, r := 3, kind := Kind.notFound, chain := [.acts [.s .dump]] }]).1.map (·.outcome) =
    [.returned, .returned, .returned] := rfl

end C09Ex

end Rux
