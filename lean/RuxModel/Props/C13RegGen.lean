import RuxModel.Generated.Code
import RuxModel.Generated.Facts
import RuxModel.Lemmas.Rt
import RuxModel.Props.C12Gen
/-
  The configuration and registration entry points of router.go / rux.go / middleware.go on the code GENERATED from them
  (Generated/Code.lean, regenerated by go/go2lean on every check run): `WithOptions`, the eight option functions,
  `NotFound` / `NotAllowed` / `Handlers`, `AddRoute`, `Add`, `AddNamed`, `Any`, the nine verb methods, `combineHandlers`.

  Options are opaque functions here (`applyOpt`), `appendRoute` (translated and tied on its own: Tie/Append.lean,
  Props/C01Gen.lean) is a parameter that may panic, `NewCachedRoutes n` is the identity `newCache n` of a fresh container.
  `maxNumCaches` (uint16 in Go) is an `Int`; no arithmetic is done on it.  That the `*Route` a verb method returns is the
  SAME object the tables hold (so that a later `Route.Use` is seen by lookups) is pointer aliasing the value translation
  does not express; the `reg` and `chain` engines register middleware both ways.
-/
namespace Rux
open GoRt

/-! ### C13: options are rejected once routes exist; every option sets exactly its field -/

/-- the last step of `WithOptions`: the cache container is created when caching is enabled -/
def withCache (newCache : Int → Nat) (r : Gen.Router) : Gen.Router :=
  if r.enableCaching then { r with cachedRoutes := some (newCache r.maxNumCaches) } else r

/-- **C13**: `WithOptions` on a router that already has routes panics with the documented message — no option is
    applied, the router is unchanged (the result carries no router) — whatever the options are, also none at all -/
def optsMsg : Bytes := [0x72, 0x6F, 0x75, 0x74, 0x65, 0x72, 0x3A, 0x20, 0x75, 0x6E, 0x61, 0x62, 0x6C, 0x65, 0x20, 0x74, 0x6F, 0x20, 0x73, 0x65, 0x74, 0x20, 0x6F, 0x70, 0x74, 0x69, 0x6F, 0x6E, 0x73, 0x20, 0x61, 0x66, 0x74, 0x65, 0x72, 0x20, 0x61, 0x64, 0x64, 0x20, 0x72, 0x6F, 0x75, 0x74, 0x65]
#guard optsMsg = Bytes.ofString "router: unable to set options after add route"

theorem C13_gen_withOptions_after_routes (r : Gen.Router) (opts : List Nat) (applyOpt : Nat → Gen.Router → Gen.Router)
    (newCache : Int → Nat) (h : r.counter > 0) :
    Gen.Router.WithOptions r opts applyOpt newCache =
      .error (.msg optsMsg) := by
  unfold Gen.Router.WithOptions
  rw [if_pos (decide_eq_true h)]
  rfl

/-- before the first route: the options are applied in the order given, then the cache container is created iff caching
    is enabled at that point -/
theorem C13_gen_withOptions_ok (r : Gen.Router) (opts : List Nat) (applyOpt : Nat → Gen.Router → Gen.Router)
    (newCache : Int → Nat) (h : ¬ r.counter > 0) :
    Gen.Router.WithOptions r opts applyOpt newCache =
      .ok (withCache newCache (opts.foldl (fun r o => applyOpt o r) r)) := by
  unfold Gen.Router.WithOptions
  rw [if_neg (mt of_decide_eq_true h), forIn_yield (f := fun o r => applyOpt o r)]
  · rfl
  · exact fun _ _ _ => rfl

/-- **C07 / C14 (the cache exists whenever caching is on)**: after a successful `WithOptions`, a router with caching
    enabled HAS a cache container (of the configured capacity) — lookups on a router without routes do not meet nil -/
theorem C07_gen_withOptions_cache_exists (r r' : Gen.Router) (opts : List Nat) (applyOpt : Nat → Gen.Router → Gen.Router)
    (newCache : Int → Nat) (h : Gen.Router.WithOptions r opts applyOpt newCache = .ok r') (hc : r'.enableCaching = true) :
    r'.cachedRoutes = some (newCache r'.maxNumCaches) := by
  by_cases hcnt : r.counter > 0
  · rw [C13_gen_withOptions_after_routes r opts applyOpt newCache hcnt] at h; cases h
  · rw [C13_gen_withOptions_ok r opts applyOpt newCache hcnt] at h
    cases h
    generalize opts.foldl _ r = r0 at hc ⊢
    unfold withCache at hc ⊢
    cases he : r0.enableCaching <;> rw [he] at hc
    · exact absurd (he.symm.trans hc) Bool.false_ne_true
    · rfl

/-- every option function sets exactly its field(s) -/
theorem C13_gen_options (r : Gen.Router) (p : Bytes) (n : Int) :
    Gen.Opt.UseEncodedPath r = { r with useEncodedPath := true } ∧
    Gen.Opt.EnableCaching r = { r with enableCaching := true } ∧
    Gen.Opt.StrictLastSlash r = { r with strictLastSlash := true } ∧
    Gen.Opt.HandleFallbackRoute r = { r with handleFallbackRoute := true } ∧
    Gen.Opt.HandleMethodNotAllowed r = { r with handleMethodNotAllowed := true } ∧
    Gen.Opt.InterceptAll p r = { r with interceptAll := Bytes.trimSpace p } ∧
    Gen.Opt.MaxNumCaches n r = { r with maxNumCaches := n } ∧
    Gen.Opt.CachingWithNum n r = { r with maxNumCaches := n, enableCaching := true } := by
  refine ⟨rfl, rfl, rfl, rfl, rfl, rfl, rfl, rfl⟩

/-- `CachingWithNum n` is `MaxNumCaches n` followed by `EnableCaching`, in either order -/
theorem C13_gen_cachingWithNum (r : Gen.Router) (n : Int) :
    Gen.Opt.CachingWithNum n r = Gen.Opt.EnableCaching (Gen.Opt.MaxNumCaches n r) ∧
    Gen.Opt.CachingWithNum n r = Gen.Opt.MaxNumCaches n (Gen.Opt.EnableCaching r) := ⟨rfl, rfl⟩

/-! ### C04 / C06: the fallback chains are exactly what the application gave -/

/-- `NotFound(hs…)` / `NotAllowed(hs…)` store exactly the given chain (the empty list included: it stands for the default
    handlers, which the dispatcher substitutes per request) and touch nothing else; `Handlers()` is the global chain -/
theorem C04_gen_fallback_setters (r : Gen.Router) (hs : List Nat) :
    Gen.Router.NotFound r hs = { r with noRoute := hs } ∧
    Gen.Router.NotAllowed r hs = { r with noAllowed := hs } ∧
    Gen.Router.Handlers r = r.handlers := ⟨rfl, rfl, rfl⟩

/-! ### C12: `combineHandlers` -/

theorem copyInto_replicate {α : Type} (a : List α) (n : Nat) (d : α) :
    copyInto (List.replicate (a.length + n) d) a = a ++ List.replicate n d := by
  unfold copyInto
  simp only [List.length_replicate]
  rw [List.take_of_length_le (by omega)]
  simp [List.drop_replicate]

theorem copyIntoAt_append {α : Type} (a b : List α) (d : α) :
    copyIntoAt (a ++ List.replicate b.length d) a.length b = a ++ b := by
  unfold copyIntoAt copyInto
  simp

/-- **C12**: `combineHandlers old new` never panics and returns a NEW list of exactly `len old + len new` handlers:
    the old ones followed by the new ones (this is the `++` the translations of `Group`, `Use` and `handleHTTPRequest` use) -/
theorem C12_gen_combineHandlers (a b : List Nat) : Gen.combineHandlers a b = .ok (a ++ b) := by
  unfold Gen.combineHandlers
  have h2 : ¬ ((a.length : Int) < 0) := Int.not_lt.mpr (Int.natCast_nonneg _)
  have h3 : ¬ a.length + b.length < a.length := Nat.not_lt.mpr (Nat.le_add_right ..)
  simp only [← Int.natCast_add, Int.toNat_natCast, copyInto_replicate, bind, Except.bind, pure, Except.pure,
    List.length_append, List.length_replicate, gt_iff_lt, Int.ofNat_lt, h2, h3, decide_false, Bool.or_self,
    Bool.false_eq_true, if_false, copyIntoAt_append]

/-! ### C13 / C01: the registration entry points -/

/-- `AddRoute`: the route goes through `appendRoute`; when that panics (invalid route) the panic propagates and nothing
    else happens; otherwise the cache container is created if caching is on and there is none yet -/
theorem C13_gen_addRoute (r : Gen.Router) (route : Gen.Route)
    (ar : Gen.Router → Gen.Route → Except Panic (Gen.Router × Gen.Route)) (nc : Int → Nat) :
    Gen.Router.AddRoute r route ar nc =
      match ar r route with
      | .error p => .error p
      | .ok (r1, rt1) =>
        .ok (if r1.enableCaching && r1.cachedRoutes.isNone then { r1 with cachedRoutes := some (nc r1.maxNumCaches) } else r1, rt1) := by
  unfold Gen.Router.AddRoute
  cases h : ar r route with
  | error p => simp [bind, Except.bind, h]
  | ok v =>
    simp only [bind, Except.bind, h, pure, Except.pure, Id.run]

/-- **C07 / C14**: after a successful `AddRoute` a router with caching enabled has a cache container -/
theorem C07_gen_addRoute_cache_exists (r r' : Gen.Router) (route rt' : Gen.Route)
    (ar : Gen.Router → Gen.Route → Except Panic (Gen.Router × Gen.Route)) (nc : Int → Nat)
    (h : Gen.Router.AddRoute r route ar nc = .ok (r', rt')) (hc : r'.enableCaching = true) :
    r'.cachedRoutes.isSome = true := by
  rw [C13_gen_addRoute] at h
  cases har : ar r route with
  | error p => rw [har] at h; cases h
  | ok v =>
    obtain ⟨r1, rt1⟩ := v
    rw [har] at h
    cases h
    cases he : r1.enableCaching with
    | false => simp [he] at hc      -- `r'` is `r1` then
    | true =>
      cases hcr : r1.cachedRoutes with
      | none => rfl                 -- the container is created
      | some _ => simp [hcr]

/-- `Add` / `AddNamed` register the route built by the generated constructors (path through `simpleFmtPath`, methods
    through `formatMethodsWithDefault … "GET"`, the name trimmed) -/
theorem C13_gen_add (r : Gen.Router) (name path : Bytes) (h : Option Nat) (ms : List Bytes)
    (ar : Gen.Router → Gen.Route → Except Panic (Gen.Router × Gen.Route)) (nc : Int → Nat) :
    Gen.Router.Add r path h ms ar nc = Gen.Router.AddRoute r (Gen.NewRoute path h ms) ar nc ∧
    Gen.Router.AddNamed r name path h ms ar nc = Gen.Router.AddRoute r (Gen.NewNamedRoute name path h ms) ar nc :=
  ⟨bind_pure _, bind_pure _⟩

/-- what a verb method does, for a method name `m`: `Add(path, h, m)`, then `Use(mw…)` on the route that came back -/
def verbSpec (m : Bytes) (r : Gen.Router) (path : Bytes) (h : Option Nat) (mw : List Nat)
    (ar : Gen.Router → Gen.Route → Except Panic (Gen.Router × Gen.Route)) (nc : Int → Nat) : Except Panic (Gen.Router × Gen.Route) :=
  match Gen.Router.Add r path h [m] ar nc with
  | .error p => .error p
  | .ok (r1, rt) =>
    match Gen.Route.Use rt mw with
    | .error p => .error p
    | .ok (rt', _) => .ok (r1, rt')

theorem verb_eq (m : Bytes) (r : Gen.Router) (path : Bytes) (h : Option Nat) (mw : List Nat)
    (ar : Gen.Router → Gen.Route → Except Panic (Gen.Router × Gen.Route)) (nc : Int → Nat)
    (f : Except Panic (Gen.Router × Gen.Route))
    (hf : f = (do
      let t1 ← Gen.Router.Add r path h [m] ar nc
      let t3 ← Gen.Route.Use t1.2 mw
      pure (t1.1, t3.2))) :
    f = match Gen.Router.Add r path h [m] ar nc with
        | .error p => .error p
        | .ok (r1, rt) =>
          match Gen.Route.Use rt mw with
          | .error p => .error p
          | .ok (_, rt') => .ok (r1, rt') := by
  subst hf
  cases h1 : Gen.Router.Add r path h [m] ar nc with
  | error p => rfl
  | ok v =>
    obtain ⟨r1, rt⟩ := v
    simp only [bind, Except.bind]
    cases h2 : Gen.Route.Use rt mw with
    | error p => rfl
    | ok w => rfl

def mGET : Bytes := [0x47, 0x45, 0x54]
#guard mGET = Bytes.ofString "GET"
def mHEAD : Bytes := [0x48, 0x45, 0x41, 0x44]
#guard mHEAD = Bytes.ofString "HEAD"
def mPOST : Bytes := [0x50, 0x4F, 0x53, 0x54]
#guard mPOST = Bytes.ofString "POST"
def mPUT : Bytes := [0x50, 0x55, 0x54]
#guard mPUT = Bytes.ofString "PUT"
def mPATCH : Bytes := [0x50, 0x41, 0x54, 0x43, 0x48]
#guard mPATCH = Bytes.ofString "PATCH"
def mTRACE : Bytes := [0x54, 0x52, 0x41, 0x43, 0x45]
#guard mTRACE = Bytes.ofString "TRACE"
def mOPTIONS : Bytes := [0x4F, 0x50, 0x54, 0x49, 0x4F, 0x4E, 0x53]
#guard mOPTIONS = Bytes.ofString "OPTIONS"
def mDELETE : Bytes := [0x44, 0x45, 0x4C, 0x45, 0x54, 0x45]
#guard mDELETE = Bytes.ofString "DELETE"
def mCONNECT : Bytes := [0x43, 0x4F, 0x4E, 0x4E, 0x45, 0x43, 0x54]
#guard mCONNECT = Bytes.ofString "CONNECT"

/-- **C13 (each verb method registers exactly its own method)**: `GET` … `CONNECT` are `Add` with the one method name
    of the verb, followed by `Route.Use` with the middleware on the returned route -/
theorem C13_gen_verbs (r : Gen.Router) (path : Bytes) (h : Option Nat) (mw : List Nat)
    (ar : Gen.Router → Gen.Route → Except Panic (Gen.Router × Gen.Route)) (nc : Int → Nat) :
    let V := fun (m : Bytes) => (do
      let t1 ← Gen.Router.Add r path h [m] ar nc
      let t3 ← Gen.Route.Use t1.2 mw
      pure (t1.1, t3.2) : Except Panic (Gen.Router × Gen.Route))
    Gen.Router.GET r path h mw ar nc = V mGET ∧ Gen.Router.HEAD r path h mw ar nc = V mHEAD ∧
    Gen.Router.POST r path h mw ar nc = V mPOST ∧ Gen.Router.PUT r path h mw ar nc = V mPUT ∧
    Gen.Router.PATCH r path h mw ar nc = V mPATCH ∧ Gen.Router.TRACE r path h mw ar nc = V mTRACE ∧
    Gen.Router.OPTIONS r path h mw ar nc = V mOPTIONS ∧ Gen.Router.DELETE r path h mw ar nc = V mDELETE ∧
    Gen.Router.CONNECT r path h mw ar nc = V mCONNECT := by
  refine ⟨?_, ?_, ?_, ?_, ?_, ?_, ?_, ?_, ?_⟩ <;> rfl

/-- `Any`: one route for ALL nine supported methods; its middleware is attached BEFORE the registration (so the 63-handler
    limit of `Route.Use` and of registration both apply); a refusal of either step propagates -/
theorem C13_gen_any (r : Gen.Router) (path : Bytes) (h : Option Nat) (mw : List Nat)
    (ar : Gen.Router → Gen.Route → Except Panic (Gen.Router × Gen.Route)) (nc : Int → Nat) :
    Gen.Router.Any r path h mw ar nc =
      match Gen.Route.Use (Gen.NewRoute path h Facts.anyMethodsB) mw with
      | .error p => .error p
      | .ok (rt, _) =>
        match Gen.Router.AddRoute r rt ar nc with
        | .error p => .error p
        | .ok (r1, _) => .ok r1 := by
  unfold Gen.Router.Any
  cases h1 : Gen.Route.Use (Gen.NewRoute path h Facts.anyMethodsB) mw with
  | error p => simp [bind, Except.bind, h1]
  | ok v =>
    obtain ⟨rt, x⟩ := v
    simp only [bind, Except.bind, h1]
    cases h2 : Gen.Router.AddRoute r rt ar nc with
    | error p => rfl
    | ok w => rfl

-- non-vacuity: a fresh router with CachingWithNum(2) gets its container; after a route exists options are refused
example : (Gen.Router.WithOptions (default : Gen.Router) [0] (fun _ r => Gen.Opt.CachingWithNum 2 r) (fun n => n.toNat)).toOption.map
    (fun r => (r.enableCaching, r.cachedRoutes)) = some (true, some 2) := by decide
example : (Gen.combineHandlers [1, 2] [3]) = .ok [1, 2, 3] := by decide

def methodsStringB : Bytes := [0x47, 0x45, 0x54, 0x2C, 0x50, 0x4F, 0x53, 0x54, 0x2C, 0x50, 0x55, 0x54, 0x2C, 0x50, 0x41, 0x54, 0x43, 0x48, 0x2C, 0x44, 0x45, 0x4C, 0x45, 0x54, 0x45, 0x2C, 0x4F, 0x50, 0x54, 0x49, 0x4F, 0x4E, 0x53, 0x2C, 0x48, 0x45, 0x41, 0x44, 0x2C, 0x43, 0x4F, 0x4E, 0x4E, 0x45, 0x43, 0x54, 0x2C, 0x54, 0x52, 0x41, 0x43, 0x45]
#guard methodsStringB = Bytes.ofString "GET,POST,PUT,PATCH,DELETE,OPTIONS,HEAD,CONNECT,TRACE"

/-- **C13 (the method list of the API)**: `AnyMethods()` / `AllMethods()` hand out the list `Any` registers under and
    `findAllowedMethods` walks — the nine methods, each once — and every one of them passes the registration check
    (`isSupportedMethod`); `MethodsString()` is their comma-joined spelling. -/
theorem C13_gen_methods_api :
    Gen.AnyMethods = Facts.anyMethodsB ∧ Gen.AllMethods = Facts.anyMethodsB ∧
    Facts.anyMethodsB.Nodup ∧ Facts.anyMethodsB.length = 9 ∧
    (∀ m ∈ Facts.anyMethodsB, Gen.isSupportedMethod m = true) ∧
    Gen.MethodsString = methodsStringB := by
  exact ⟨rfl, rfl, by decide, rfl, fun m hm => (C13_gen_supported_exact m).trans (decide_eq_true hm), by rfl⟩

/-- **C13 / C04 (`Route.AttachTo`)**: attaching a route to a router IS `router.AddRoute(route)` — the same checks, the same
    refusals, the same tables; nothing of the route is remembered per router beyond what `AddRoute` files (a route
    attached to a second router is registered there by the same function, from the route as the first registration
    left it) -/
theorem C13_gen_attachTo (rt : Gen.Route) (r : Gen.Router)
    (ar : Gen.Router → Gen.Route → Except Panic (Gen.Router × Gen.Route)) (nc : Int → Nat) :
    Gen.Route.AttachTo rt r ar nc = Gen.Router.AddRoute r rt ar nc := bind_pure _

end Rux
