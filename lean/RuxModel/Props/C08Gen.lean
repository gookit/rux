import RuxModel.Tie.Writer
import RuxModel.Props.C08
import RuxModel.Generated.Facts
/-
  C08 on the code GENERATED from response_wirter.go (Generated/Code.lean, regenerated by go/go2lean on every
  check run): the theorems of Props/C08.lean, transported along the tie `Tie.tie_finish`
  (generated `reset` / `WriteHeader` / `Write` / `Flush` / `ensureWriteHeader` = the hand-written writer model).

  `Tie.genFinish old ops` is one request on the generated functions: `reset`, the operations `ops` of its handlers, the
  `ensureWriteHeader()` at the end of `handleHTTPRequest`; `old` is whatever the pooled writer contained before.
-/
namespace Rux
open Writer Tie

/-- the calls that reach the underlying `http.ResponseWriter` are exactly: one `WriteHeader` with the
    specified status, then the body writes and flushes in order -/
theorem C08_gen_log_exact (old : Gen.RW) (ops : List Op) :
    (genFinish old ops).log = .writeHeader (specStatus ops) :: (ioEvents ops).map toWEv := by
  have h := (tie_finish old none ops).log
  rw [C08_log_exact] at h
  simpa [toWEv] using absLog_iff.mp h

/-- exactly one `WriteHeader` call, and it is the first call -/
theorem C08_gen_one_commit (old : Gen.RW) (ops : List Op) :
    ((genFinish old ops).log.filter (fun e => match e with | .writeHeader _ => true | _ => false)).length = 1 ∧
    (∃ code, (genFinish old ops).log.head? = some (.writeHeader code)) := by
  -- the test for a `writeHeader` call, composed with `toWEv`, is the model's `Ev.isWH`
  rw [C08_gen_log_exact, List.filter_cons_of_pos rfl, List.filter_map,
    show _ ∘ toWEv = Ev.isWH from funext fun e => by cases e <;> rfl, filter_isWH_ioEvents]
  exact ⟨rfl, _, rfl⟩

/-- `Length()` of the generated writer at the end of the request = bytes the underlying writer accepted -/
theorem C08_gen_length (old : Gen.RW) (ops : List Op) :
    Gen.RW.Length (genFinish old ops) = specLength ops := by
  rw [tie_Length _ _ (tie_finish old none ops)]; exact C08_length none ops

/-- the state left by an earlier request in the pooled writer does not matter -/
theorem C08_gen_old_irrelevant (old old' : Gen.RW) (ops : List Op) :
    genFinish old ops = genFinish old' ops := by
  simp [genFinish, genFresh, Gen.RW.reset, Id.run, GoRt.idPure]

/-- the methods of `responseWriter` that mention the underlying writer are exactly: `reset` (installs it), `Header`
    (the header map), `ensureWriteHeader` (THE commit), `Write` and `Flush` (both translated: they commit first),
    `Hijack` (takes the connection over; outside the model).  A further method that reaches the underlying writer —
    a `WriteString`, `ReadFrom`, `Push` … fast path — would be a new way to send body bytes without the commit:
    this theorem stops checking and the new method has to be looked at. -/
theorem C08_gen_writer_methods :
    Facts.writerMethods = [("Flush", true), ("Header", true), ("Hijack", true), ("Length", false), ("Status", false),
      ("Write", true), ("WriteHeader", false), ("Written", false), ("ensureWriteHeader", true), ("reset", true)] :=
  rfl

/-- context.go `WriteBytes` / `WriteString` / `SetStatusCode` as generated: the body helpers are ONE `Write` on the
    context's writer — so the recorded status is committed first, by the theorems above — and panic exactly when that
    Write reports an error; nothing else of the context or of the request (its method, its context.Context) decides
    whether the bytes are handed on.  `SetStatusCode` is `SetStatus`. -/
theorem C08_gen_ctx_write {γ : Type} (c : Gen.Ctx γ) (b : Bytes) (ext : Int × Bool) (code : Int) :
    Gen.Ctx.WriteBytes c b ext =
      (if (Gen.RW.Write c.writer b ext).2.2 then .error .value
       else .ok { c with writer := (Gen.RW.Write c.writer b ext).1 }) ∧
    Gen.Ctx.WriteString c b ext = Gen.Ctx.WriteBytes c b ext ∧
    Gen.Ctx.SetStatusCode c code = Gen.Ctx.SetStatus c code := by
  refine ⟨?_, ?_, rfl⟩
  · unfold Gen.Ctx.WriteBytes
    cases h : (Gen.RW.Write c.writer b ext).2.2 <;> simp [h] <;> rfl
  · unfold Gen.Ctx.WriteString
    cases Gen.Ctx.WriteBytes c b ext <;> rfl

theorem ensure_written (w : Gen.RW) :
    Gen.RW.Written (Gen.RW.ensureWriteHeader w) = true ∧
    Gen.RW.ensureWriteHeader (Gen.RW.ensureWriteHeader w) = Gen.RW.ensureWriteHeader w := by
  rw [ensureWriteHeader_eq]
  by_cases h : w.length = -1
  · rw [if_pos h, ensureWriteHeader_eq]
    exact ⟨rfl, rfl⟩
  · rw [if_neg h, ensureWriteHeader_eq, if_neg h]
    exact ⟨by simpa [Gen.RW.Written, Id.run, GoRt.idPure] using h, rfl⟩

/-- **C08 (a handler used as an http.Handler)**: `HandlerFunc.ServeHTTP` as generated is — a fresh context, `Init` on
    the caller's writer and request, the handler, then THE end-of-request commit (`ensureWriteHeader`): when the handler
    returns, the header is committed (exactly once: a handler that wrote or flushed had committed it, and the call is
    then a no-op), so a status-only answer reaches the client with its status.  A panic of the handler escapes (there is
    no hook on this path) and nothing is committed behind it.  (F18: the commit was missing.) -/
theorem C08_gen_handlerFunc {γ : Type} (zero : Gen.Ctx γ) (r : Option Nat) (run : Gen.Ctx γ → Except Panic (Gen.Ctx γ)) :
    Gen.HandlerFunc.ServeHTTP () r zero run =
      (match run (Gen.Ctx.Init zero () r) with
       | .ok c => .ok { c with writer := Gen.RW.ensureWriteHeader c.writer }
       | .error p => .error p) ∧
    (∀ c, Gen.HandlerFunc.ServeHTTP () r zero run = .ok c → Gen.RW.Written c.writer = true) := by
  unfold Gen.HandlerFunc.ServeHTTP
  simp only []
  cases run (Gen.Ctx.Init zero () r) with
  | error p => exact ⟨rfl, fun c hc => nomatch hc⟩
  | ok c' => exact ⟨rfl, fun c hc => by cases hc; exact (ensure_written c'.writer).1⟩

-- non-vacuity: F9's input (status, flush, status again, write) on the generated code
example : (genFinish default [.setStatus 201, .flush, .setStatus 202, .write [120] 1 false]).log =
    [.writeHeader 201, .flush, .write [120] 1 false] := by decide

end Rux
