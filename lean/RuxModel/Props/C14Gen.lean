import RuxModel.Tie.Cache
import RuxModel.Props.C14
/-
  C14 on the code GENERATED from route_cache.go (Generated/Code.lean, regenerated by go/go2lean on every check
  run): `cachedRoutes.Set/Get/Has/Delete/Len` over a `container/list` with element identity and a
  `map[string]*list.Element`.  `Tie.tie_runC` is the refinement: for every operation sequence the generated
  code keeps the representation invariant `Tie.Inv` and answers and evolves exactly like the recency-ordered
  association list of Model/Cache.lean; the theorems of Props/C14.lean follow for the generated code.
-/
namespace Rux
open Tie

variable {ρ : Type}

/-- the keys of the generated cache, most recent first (what the verif accessor `VerifKeys` reads) -/
def genKeys (c : Gen.CR ρ) : List Bytes := c.list.items.map (·.key)

theorem genKeys_abs (c : Gen.CR ρ) : genKeys c = (absC c).keys := by
  simp [genKeys, absC, Cache.keys, List.map_map, Function.comp]

/-- every operation sequence: outputs of the generated code = outputs of the bounded LRU map -/
theorem C14_gen_refines (size : Int) (ops : List (CacheOp Bytes (Option ρ))) :
    genOutputsC (genNew size) ops = (Cache.empty size.toNat : Cache Bytes (Option ρ)).outputs ops ∧
    genKeys (genRunC (genNew size : Gen.CR ρ) ops) = ((Cache.empty size.toNat : Cache Bytes (Option ρ)).run ops).keys := by
  obtain ⟨_, h2, h3⟩ := tie_runC ops (genNew size : Gen.CR ρ) (inv_new size)
  rw [abs_new] at h2 h3
  exact ⟨h3, by rw [genKeys_abs, h2]⟩

/-- never more entries than the capacity, never two entries for one key — for the generated code -/
theorem C14_gen_bounded (size : Int) (ops : List (CacheOp Bytes (Option ρ))) :
    (genKeys (genRunC (genNew size : Gen.CR ρ) ops)).length ≤ size.toNat ∧
    (genKeys (genRunC (genNew size : Gen.CR ρ) ops)).Nodup ∧
    Gen.CR.Len (genRunC (genNew size : Gen.CR ρ) ops) = (genKeys (genRunC (genNew size : Gen.CR ρ) ops)).length := by
  rw [(C14_gen_refines size ops).2]
  refine ⟨?_, C14_unique_keys _ ops, ?_⟩
  · have := C14_bounded (K := Bytes) (V := Option ρ) size.toNat ops
    simpa [Cache.len, Cache.keys] using this
  · rw [tie_Len]
    obtain ⟨_, h2, _⟩ := tie_runC ops (genNew size : Gen.CR ρ) (inv_new size)
    rw [h2, abs_new]; simp [Cache.len, Cache.keys]

/-- the map and the list stay in step: the map sends exactly the keys in the list to their element -/
theorem C14_gen_index_coherent (size : Int) (ops : List (CacheOp Bytes (Option ρ))) (k : Bytes) :
    ((genRunC (genNew size : Gen.CR ρ) ops).hashMap.get k).isSome = decide (k ∈ genKeys (genRunC (genNew size : Gen.CR ρ) ops)) := by
  obtain ⟨hinv, _, _⟩ := tie_runC ops (genNew size : Gen.CR ρ) (inv_new size)
  rw [hinv.map k, Option.isSome_map, Bool.eq_iff_iff, List.find?_isSome]
  simp only [genKeys, beq_iff_eq, decide_eq_true_eq, List.mem_map]

/-- **C14 (the constructor)**: `NewCachedRoutes(size)` as generated is the empty cache `genNew size` that the refinement
    starts from — capacity exactly `size` (also 0 and negative sizes: nothing is clamped), no element, an empty index -/
theorem C14_gen_new (size : Int) : (Gen.NewCR size : Gen.CR ρ) = genNew size ∧ Inv (Gen.NewCR size : Gen.CR ρ) ∧
    absC (Gen.NewCR size : Gen.CR ρ) = Cache.empty size.toNat := by
  have h : (Gen.NewCR size : Gen.CR ρ) = genNew size := rfl
  exact ⟨h, h ▸ inv_new size, h ▸ abs_new size⟩

-- non-vacuity: capacity 2, three keys, a hit in between (evaluated on the generated code)
example : genKeys (genRunC (genNew 2 : Gen.CR Nat)
      [.set [1] (some 10), .set [2] (some 20), .get [1], .set [3] (some 30)]) = [[3], [1]] := by decide
example : genOutputsC (genNew 1 : Gen.CR Nat) [.set [1] (some 10), .get [1], .set [2] none, .get [1], .len] =
    [.bool true, .val (some (some 10)), .bool true, .val none, .nat 1] := by decide

end Rux
