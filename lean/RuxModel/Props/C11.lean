import RuxModel.Lemmas.Path
/-
  C11 — Registration and lookup normalise paths identically; normalisation is total.

  Model: Model/Path.lean (`formatPath strict`, `simpleFmtPath`, `storedPath`, `groupPrefix`,
  `nestedPrefix`, `Router.addStatic/matchStatic/serveStatic`), over ALL byte strings (lists of naturals, a
  superset of Go strings), for both `StrictLastSlash` settings (`st`).  Helper lemmas: Lemmas/Trim.lean,
  Lemmas/Path.lean.  `slash = 0x2F`.

  Clause of the statement                         theorem(s)
  ------------------------------------------------------------------------------------------------
  normalisation is total (never panics)           C11_total, C11_total_register, C11_total_match
                                                  (`simpleFmtPath` has no partial operation at all: TrimSpace,
                                                  a test for "", TrimLeft — it is a total function by type)
  registration and lookup normalise alike         C11_agree (NewRoute's simpleFmtPath + formatPath at
                                                  registration = formatPath at lookup)
  surrounding white space is ignored              C11_ws (any runs of white-space runes on both sides),
                                                  C11_ws_trimSpace (what Go's TrimSpace removes)
  a missing leading slash is repaired             C11_leading (side condition: no leading white space;
                                                  excluded string exhibited in C11_leading_excluded)
  a repeated leading slash is repaired            C11_slashes
  trailing slashes are insignificant (non-strict) C11_trailing, C11_trailing_mixed
  strict mode distinguishes /a and /a/            C11_strict_separates (decide), C11_nonstrict_merges
  shape of the result / normal forms              C11_shape, C11_normal_iff, C11_idem (idempotent: holds for
                                                  the current code, after the fix of F16)
  group prefix G, path P                          C11_group (closed form for normal G, P), C11_group_stored
                                                  (what is stored, any nesting), C11_group_reachable (the
                                                  stored path is a fixed point: the route is reached by
                                                  the request spelled like it — F16)
  a route registered as P is reached by every     C11_reach_step (general table: the newest registration
  request that normalises to the same string      under a key wins, every other lookup is unchanged),
  and by no other                                 C11_reach_table_sound / _complete (any registration program),
                                                  C11_reach (one route: iff), C11_reach_keys (method names
                                                  without '/': equal keys = equal method and equal path;
                                                  excluded method exhibited in C11_reach_keys_excluded)
  decoded vs escaped request path                 C11_path_choice (the model takes URL.Path and
                                                  URL.EscapedPath() as computed by net/url as inputs)
  InterceptAll                                    C11_intercept

  NOT proved here: dynamic routes ("iff the pattern matches formatPath q") — that is C01's table model;
  the HEAD→GET / fallback / 405 steps of QuickMatch (C06); net/url's computation of Path/EscapedPath
  (outside rux, real values are fed to the model by the harness); that `isWsRune` is exactly
  `unicode.IsSpace` on valid encodings (differentially tested by the gostr engine, with the 25 runes
  listed in `C11_ws_runes`).
-/
namespace Rux
open Bytes Path

/-! ### totality -/

/-- `formatPath` never reaches one of its index panics (`path[0]`, `path[1]`), whatever the string -/
theorem C11_total (st : Bool) (s : Bytes) : ∃ t, formatPath st s = .ok t :=
  ⟨_, formatPath_eq st s⟩

/-- registration (`NewRoute` + `appendGroupInfo`) inside any nesting of groups never panics in the
    normalisation steps -/
theorem C11_total_register (st : Bool) (gs : List Bytes) (P : Bytes) :
    ∃ pre s, nestedPrefix st [] gs = .ok pre ∧ storedPath st pre P = .ok s :=
  ⟨_, _, nestedPrefix_eq st [] gs, storedPath_eq st _ P⟩

/-- lookup of any request path (or intercept path) never panics in the normalisation step -/
theorem C11_total_match (r : Router) (m q : Bytes) : ∃ o, r.matchStatic m q = .ok o :=
  ⟨_, matchStatic_eq r m q⟩

example : formatPath false [0x20, 0x20] = .ok [slash] := by decide        -- F3: "  " used to panic
example : formatPath false [0xE3, 0x80, 0x80] = .ok [slash] := by decide  -- U+3000 alone
example : formatPath true [] = .ok [slash] := by decide

/-! ### registration = lookup -/

/-- what is stored for a route registered as `P` (outside groups) is what a request spelled `P` is
    looked up as: `formatPath (simpleFmtPath P) = formatPath P` -/
theorem C11_agree (st : Bool) (P : Bytes) : formatPath st (simpleFmtPath P) = formatPath st P := by
  rw [formatPath_eq, formatPath_eq, final_simple]

/-! ### shape, normal forms, idempotence -/

/-- every result starts with `/`, has no second leading `/`, no leading or trailing white space and, in
    non-strict mode, no trailing `/` unless it is `/` itself -/
theorem C11_shape (st : Bool) (s t : Bytes) (h : formatPath st s = .ok t) :
    t.head? = some slash ∧ t[1]? ≠ some slash ∧ spaceAtHead t = 0 ∧ spaceAtHeadRev t.reverse = 0 ∧
    (st = false → t = [slash] ∨ hasSuffix t [slash] = false) := by
  rw [formatPath_eq] at h
  cases h
  rcases (nf_iff _ _).1 (final_nf st s) with h1 | ⟨c, rest, hs, hc, ht, he⟩
  · rw [h1]
    exact ⟨rfl, nofun, spaceAtHead_slash _, spaceAtHeadRev_inert slash_inert _, fun _ => .inl rfl⟩
  · exact ⟨rfl, by rw [hs]; simpa using hc, spaceAtHead_slash _, ht, fun hst => .inr (he hst)⟩

/-- the results are exactly the strings of that shape: a string is a fixed point of `formatPath` iff it is
    `/`, or starts with `/c` (`c ≠ '/'`), has no trailing white space and (non-strict) no trailing `/` -/
theorem C11_normal_iff (st : Bool) (t : Bytes) :
    formatPath st t = .ok t ↔
      (t = [slash] ∨ ∃ c rest, t = slash :: c :: rest ∧ c ≠ slash ∧ spaceAtHeadRev t.reverse = 0 ∧
        (st = false → hasSuffix t [slash] = false)) := by
  rw [formatPath_eq]
  refine Iff.trans ?_ (nf_iff st t)
  constructor
  · intro h
    have := final_nf st t
    rwa [Except.ok.inj h] at this
  · intro h
    rw [nf_fixed h]

/-- `formatPath` is idempotent (current code; before the fix of F16 it was not: `"/a /" ↦ "/a " ↦ "/a"`) -/
theorem C11_idem (st : Bool) (s t : Bytes) (h : formatPath st s = .ok t) : formatPath st t = .ok t := by
  rw [formatPath_eq] at h
  cases h
  rw [formatPath_eq, nf_fixed (final_nf st s)]

example : formatPath false [slash, 0x61, 0x20, slash] = .ok [slash, 0x61] := by decide   -- "/a /" ↦ "/a"
example : formatPath true [slash, 0x61, 0x20, slash] = .ok [slash, 0x61, 0x20, slash] := by decide

/-! ### surrounding white space -/

/-- the 25 white-space runes of `unicode.IsSpace`, UTF-8 encoded, are white-space runes of the model -/
theorem C11_ws_runes :
    ∀ w ∈ ([[0x09], [0x0A], [0x0B], [0x0C], [0x0D], [0x20], [0xC2, 0x85], [0xC2, 0xA0], [0xE1, 0x9A, 0x80],
      [0xE2, 0x80, 0x80], [0xE2, 0x80, 0x81], [0xE2, 0x80, 0x82], [0xE2, 0x80, 0x83], [0xE2, 0x80, 0x84],
      [0xE2, 0x80, 0x85], [0xE2, 0x80, 0x86], [0xE2, 0x80, 0x87], [0xE2, 0x80, 0x88], [0xE2, 0x80, 0x89],
      [0xE2, 0x80, 0x8A], [0xE2, 0x80, 0xA8], [0xE2, 0x80, 0xA9], [0xE2, 0x80, 0xAF], [0xE2, 0x81, 0x9F],
      [0xE3, 0x80, 0x80]] : List Bytes), isWsRune w = true := by decide

/-- any number of white-space runes in front of and behind a path do not change the result -/
theorem C11_ws (st : Bool) (l r : List Bytes) (hl : ∀ w ∈ l, isWsRune w = true)
    (hr : ∀ w ∈ r, isWsRune w = true) (P : Bytes) :
    formatPath st (l.flatten ++ P ++ r.flatten) = formatPath st P := by
  rw [formatPath_eq, formatPath_eq, append_flatten_invariant (fun w hw => final_append_word st (.inl hw)) r hr]
  induction l with
  | nil => rfl
  | cons w l ih =>
    obtain ⟨hw, hl⟩ := List.forall_mem_cons.1 hl
    rw [List.flatten_cons, List.append_assoc, final_word_append st hw]
    exact ih hl

/-- what Go's `strings.TrimSpace` removes does not change the result -/
theorem C11_ws_trimSpace (st : Bool) (P : Bytes) : formatPath st (trimSpace P) = formatPath st P := by
  rw [formatPath_eq, formatPath_eq, final_trimSpace]

example : formatPath false ([[0x20], [0xC2, 0xA0]].flatten ++ [0x61] ++ [[0xE2, 0x80, 0x83], [0x09]].flatten)
    = formatPath false [0x61] := by decide
-- a lone continuation byte is no white space: it stays
example : formatPath false [0xA0, 0x61] = .ok [slash, 0xA0, 0x61] := by decide

/-! ### leading slashes -/

/-- a missing leading slash is repaired: `P` and `/P` are the same path, provided `P` has no leading
    white space (that would be trimmed from `P` but is interior in `/P`) -/
theorem C11_leading (st : Bool) (P : Bytes) (h : spaceAtHead P = 0) :
    formatPath st (slash :: P) = formatPath st P := by
  rw [formatPath_eq, formatPath_eq, final_cons_slash st h]

/-- the side condition of `C11_leading` is needed: `"/ a"` and `" a"` are different paths -/
theorem C11_leading_excluded (st : Bool) :
    formatPath st (slash :: [0x20, 0x61]) ≠ formatPath st [0x20, 0x61] := by
  cases st <;> decide

/-- repeated leading slashes are one leading slash -/
theorem C11_slashes (st : Bool) (k : Nat) (P : Bytes) :
    formatPath st (List.replicate (k + 1) slash ++ P) = formatPath st (slash :: P) := by
  rw [formatPath_eq, formatPath_eq, final_replicate_slash]

example : spaceAtHead [0x61, 0x20] = 0 := by decide      -- the hypothesis of C11_leading is satisfiable
example : formatPath true [0x61, 0x20] = formatPath true [slash, 0x61, 0x20] := by decide
example : formatPath true [slash, slash, slash, 0x78] = .ok [slash, 0x78] := by decide
-- only LEADING slashes are merged
example : formatPath false [slash, 0x78, slash, slash, 0x79] = .ok [slash, 0x78, slash, slash, 0x79] := by decide

/-! ### trailing slashes -/

/-- non-strict mode: any mixture of slashes and white-space runes at the end is insignificant -/
theorem C11_trailing_mixed (r : List Bytes) (hr : ∀ w ∈ r, isWsRune w = true ∨ w = [slash]) (P : Bytes) :
    formatPath false (P ++ r.flatten) = formatPath false P := by
  refine append_flatten_invariant (fun w hw P => ?_) r hr P
  rw [formatPath_eq, formatPath_eq, final_append_word false (hw.imp_right fun h => ⟨rfl, h⟩)]

/-- non-strict mode: trailing slashes are insignificant -/
theorem C11_trailing (k : Nat) (P : Bytes) :
    formatPath false (P ++ List.replicate k slash) = formatPath false P := by
  rw [← List.flatten_replicate_singleton]
  exact C11_trailing_mixed _ (fun w hw => .inr (List.eq_of_mem_replicate hw)) P

/-- strict mode distinguishes `/a` from `/a/` … -/
theorem C11_strict_separates :
    formatPath true [slash, 0x61] ≠ formatPath true [slash, 0x61, slash] := by decide

/-- … non-strict mode does not -/
theorem C11_nonstrict_merges :
    formatPath false [slash, 0x61] = formatPath false [slash, 0x61, slash] := by decide

example : formatPath true [slash, 0x61, slash] = .ok [slash, 0x61, slash] := by decide
example : formatPath false [0x61, slash, 0x20, slash, 0xC2, 0xA0, slash] = .ok [slash, 0x61] := by decide

/-! ### groups -/

/-- what is stored for `P` inside nested groups `gs`: the prefix is the concatenation of the normalised
    group prefixes, and the stored path is `formatPath (prefix ++ formatPath P)` -/
theorem C11_group_stored (st : Bool) (gs : List Bytes) (P pre path s : Bytes)
    (hpre : nestedPrefix st [] gs = .ok pre) (hP : formatPath st P = .ok path)
    (hs : storedPath st pre P = .ok s) :
    (gs ≠ [] → formatPath st (pre ++ path) = .ok s) ∧ (gs = [] → s = path) := by
  rw [nestedPrefix_eq] at hpre
  rw [formatPath_eq] at hP
  rw [storedPath_eq] at hs
  cases hpre; cases hP; cases hs
  cases gs with
  | nil => exact ⟨nofun, fun _ => rfl⟩
  | cons g gs => exact ⟨fun _ => by rw [formatPath_eq, stored, if_pos (by simp [final])], nofun⟩

/-- the stored path is a fixed point of `formatPath` whatever the nesting: the route is reached by the
    request spelled like its stored path (this is what failed for `Group("/g", GET("/a /"))` — F16) -/
theorem C11_group_reachable (st : Bool) (pre P s : Bytes) (hs : storedPath st pre P = .ok s) :
    formatPath st s = .ok s := by
  rw [storedPath_eq] at hs
  cases hs
  rw [formatPath_eq, nf_fixed (stored_nf st pre P)]

/-- one group, prefix and path in normal form (`G' = formatPath G`, `P' = formatPath P`): the stored path
    is `P'` for the root prefix, `G'` for the root path in non-strict mode (strict: `G' ++ "/"`), and the
    plain concatenation otherwise -/
theorem C11_group (st : Bool) (G P G' P' : Bytes) (hG : formatPath st G = .ok G')
    (hP : formatPath st P = .ok P') :
    storedPath st G' P =
      .ok (if G' = [slash] then P' else if st = false ∧ P' = [slash] then G' else G' ++ P') := by
  rw [formatPath_eq] at hG hP
  cases hG; cases hP
  rw [storedPath_eq, stored, if_pos (by simp [final]), final_group (final_nf st G) (final_nf st P)]

-- Group("/g") { GET("/a /") } is stored as "/g/a" and so is the request "/g/a /" looked up
example : storedPath false [slash, 0x67] [slash, 0x61, 0x20, slash] = .ok [slash, 0x67, slash, 0x61] := by decide
example : formatPath false [slash, 0x67, slash, 0x61, 0x20, slash] = .ok [slash, 0x67, slash, 0x61] := by decide
-- nested groups "/a" and "/": the prefixes are concatenated as they are, interior slashes stay
example : nestedPrefix false [] [[slash, 0x61], [slash]] = .ok [slash, 0x61, slash] := by decide
example : storedPath false [slash, 0x61, slash] [0x62] = .ok [slash, 0x61, slash, slash, 0x62] := by decide
example : storedPath true [slash, 0x67] [slash] = .ok [slash, 0x67, slash] := by decide

/-! ### static routes: reached by exactly the requests that normalise to the stored path -/

/-- general table, general router state (any group prefix, any intercept setting is excluded by `hi`):
    after registering `P` for method `m`, a lookup finds the new route iff its key `method ++
    formatPath q` equals `m ++ stored path`; every other lookup answers as before -/
theorem C11_reach_step (r r' : Router) (m P : Bytes) (id : Nat) (s : Bytes)
    (hreg : r.addStatic m P id = .ok (r', s)) (hi : r.intercept = []) (m' q q' : Bytes)
    (hq : formatPath r.strict q = .ok q') :
    r'.matchStatic m' q = if m ++ s = m' ++ q' then .ok (some id) else r.matchStatic m' q := by
  rw [addStatic_eq] at hreg
  rw [formatPath_eq] at hq
  cases hreg; cases hq
  simp only [matchStatic_eq, hi, ne_eq, not_true_eq_false, if_false, find_add]
  split <;> rfl

/-- method names without `/`: the key `method ++ path` determines method and path, because every
    normalised path starts with `/` -/
theorem C11_reach_keys (st : Bool) (m m' P q s q' : Bytes) (hm : slash ∉ m) (hm' : slash ∉ m')
    (hs : formatPath st P = .ok s) (hq : formatPath st q = .ok q') :
    m ++ s = m' ++ q' ↔ m = m' ∧ s = q' := by
  rw [formatPath_eq] at hs hq
  cases hs; cases hq
  constructor
  · intro h
    have := key_inj hm hm' h
    exact ⟨this.1, by unfold final; rw [this.2]⟩
  · intro ⟨h1, h2⟩; rw [h1, h2]

/-- the side condition of `C11_reach_keys` is needed: a "method" containing `/` aliases another key
    (`QuickMatch("GET/a", "/b")` finds `GET /a/b`); net/http never delivers such a method -/
theorem C11_reach_keys_excluded :
    ([0x47, slash, 0x61] : Bytes) ++ [slash, 0x62] = [0x47] ++ [slash, 0x61, slash, 0x62] ∧
    formatPath false [slash, 0x62] = .ok [slash, 0x62] ∧
    formatPath false [slash, 0x61, slash, 0x62] = .ok [slash, 0x61, slash, 0x62] := by decide

/-- one static route registered as `P` (top level, fresh router): it is returned for the request
    `(m', q)` iff `m' = m` and `formatPath q = formatPath (simpleFmtPath P)` -/
theorem C11_reach (st enc : Bool) (m P : Bytes) (id : Nat) (hm : slash ∉ m) (m' q : Bytes)
    (hm' : slash ∉ m') :
    ∃ r' s, ({ strict := st, useEncoded := enc } : Router).addStatic m P id = .ok (r', s) ∧
      (r'.matchStatic m' q = .ok (some id) ↔
        (m' = m ∧ formatPath st q = formatPath st (simpleFmtPath P))) ∧
      (r'.matchStatic m' q = .ok none ∨ r'.matchStatic m' q = .ok (some id)) := by
  refine ⟨_, _, addStatic_eq _ m P id, ?_⟩
  have hkeys := C11_reach_keys st m m' P q _ _ hm hm' (formatPath_eq st P) (formatPath_eq st q)
  rw [C11_agree, formatPath_eq, formatPath_eq, matchStatic_eq]
  have hst : stored st [] P = final st P := rfl
  simp only [find_add, hst, ne_eq, not_true_eq_false, if_false, hkeys]
  by_cases hk : m = m' ∧ final st P = final st q
  · rw [if_pos hk]
    exact ⟨⟨fun _ => ⟨hk.1.symm, by rw [hk.2]⟩, fun _ => rfl⟩, Or.inr rfl⟩
  · rw [if_neg hk]
    exact ⟨⟨nofun, fun h => absurd ⟨h.1.symm, (Except.ok.inj h.2).symm⟩ hk⟩, Or.inl rfl⟩

example : slash ∉ ([0x47, 0x45, 0x54] : Bytes) := by decide   -- "GET" meets the hypothesis on methods
-- non-vacuity: GET "about/" is found by " /about", not by "/about/x"
example : ∃ r' s, ({} : Router).addStatic [0x47] [0x61, slash] 7 = .ok (r', s) ∧
    r'.matchStatic [0x47] [0x20, slash, 0x61] = .ok (some 7) ∧
    r'.matchStatic [0x47] [slash, 0x61, slash, 0x78] = .ok none := ⟨_, _, rfl, rfl, rfl⟩

/-- any registration program (static routes inside any nesting of groups) on a fresh router — "by no
    other": if a lookup returns route `id`, some registration with that id was stored under exactly the
    key `method ++ formatPath q` of the request -/
theorem C11_reach_table_sound (st enc : Bool) (regs : List (List Bytes × Bytes × Bytes × Nat))
    (r' : Router) (hreg : ({ strict := st, useEncoded := enc } : Router).regAll regs = .ok r')
    (m' q : Bytes) (id : Nat) (h : r'.matchStatic m' q = .ok (some id)) :
    ∃ gs m P pre s q', (gs, m, P, id) ∈ regs ∧ nestedPrefix st [] gs = .ok pre ∧
      storedPath st pre P = .ok s ∧ formatPath st q = .ok q' ∧ m ++ s = m' ++ q' := by
  rw [regAll_eq] at hreg
  cases hreg
  simp only [matchStatic_eq, ne_eq, not_true_eq_false, if_false, List.append_nil] at h
  obtain ⟨⟨gs, m, P, i⟩, he, hk⟩ := List.mem_map.1 (find_some_mem (Except.ok.inj h))
  obtain ⟨hk1, rfl⟩ := Prod.mk.inj hk
  exact ⟨gs, m, P, _, _, _, List.mem_reverse.1 he, nestedPrefix_eq st [] gs, storedPath_eq st _ P,
    formatPath_eq st q, by simpa [regKey] using hk1⟩

/-- … and "by every request that normalises to the same string": if the key of the request equals the key
    under which some registration was stored, the lookup returns a route (the newest one stored under that
    key — `stableRoutes[key] = route` overwrites) -/
theorem C11_reach_table_complete (st enc : Bool) (regs : List (List Bytes × Bytes × Bytes × Nat))
    (r' : Router) (hreg : ({ strict := st, useEncoded := enc } : Router).regAll regs = .ok r')
    (gs : List Bytes) (m P : Bytes) (id : Nat) (hmem : (gs, m, P, id) ∈ regs) (pre s m' q q' : Bytes)
    (hpre : nestedPrefix st [] gs = .ok pre) (hs : storedPath st pre P = .ok s)
    (hq : formatPath st q = .ok q') (hkey : m ++ s = m' ++ q') :
    ∃ id', r'.matchStatic m' q = .ok (some id') := by
  rw [regAll_eq] at hreg
  rw [nestedPrefix_eq] at hpre
  rw [storedPath_eq] at hs
  rw [formatPath_eq] at hq
  cases hreg; cases hpre; cases hs; cases hq
  simp only [matchStatic_eq, ne_eq, not_true_eq_false, if_false, List.append_nil]
  have : (m' ++ final st q, id) ∈ (regs.reverse.map fun e => (regKey st [] e, e.2.2.2)) :=
    List.mem_map.2 ⟨(gs, m, P, id), List.mem_reverse.2 hmem, by simp [regKey, ← hkey]⟩
  obtain ⟨id', h'⟩ := find_of_mem this
  exact ⟨id', by rw [h']⟩

-- non-vacuity: two routes in groups, the second registration of an equal key wins
example : ∃ r', ({} : Router).regAll [([[slash, 0x67]], [0x47], [0x61, 0x20, slash], 1), ([], [0x47], [slash, 0x67, slash, 0x61], 2)] = .ok r' ∧
    r'.matchStatic [0x47] [0x67, slash, 0x61, slash] = .ok (some 2) := ⟨_, rfl, rfl⟩

/-! ### request path choice, InterceptAll -/

/-- dispatch matches `URL.Path`, or `URL.EscapedPath()` iff `UseEncodedPath` is set -/
theorem C11_path_choice (r : Router) (m urlPath escaped : Bytes) :
    r.serveStatic m urlPath escaped =
      r.matchStatic m (if r.useEncoded then escaped else urlPath) := rfl

/-- `InterceptAll(p)`: every request is looked up as `p` would be, with the same normalisation as a request
    path (F14); a white-space-only `p` switches the option off -/
theorem C11_intercept (r : Router) (p m q : Bytes) (hi : r.intercept = []) :
    (r.setIntercept p).matchStatic m q =
      if trimSpace p = [] then r.matchStatic m q else r.matchStatic m p := by
  simp only [matchStatic_eq, Router.setIntercept, hi, ne_eq, not_true_eq_false, if_false]
  by_cases h : trimSpace p = []
  · simp [h]
  · simp [h, final_trimSpace]

example : (({} : Router).setIntercept [0x20, 0x78, slash]).intercept = [0x78, slash] := by decide

end Rux
