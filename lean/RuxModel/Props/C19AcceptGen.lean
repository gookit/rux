import RuxModel.Generated.Code
import RuxModel.Lemmas.Bytes
import RuxModel.Lemmas.Rt
/-
  utils.go `parseAccept` (the Accept header as `Context.AcceptedTypes` hands it out) on the GENERATED code.
-/
namespace Rux

/-- the media type of one item of an Accept header: what stands before the first `;`, white space trimmed -/
def acceptItem (part : Bytes) : Bytes := Bytes.trimSpace ((Bytes.splitOnByte 59 part).headD [])

theorem foldl_filter {α β : Type} (f : α → β) (p : β → Bool) (l : List α) (acc : List β) :
    l.foldl (fun b a => if p (f a) then b ++ [f a] else b) acc = acc ++ (l.map f).filter p := by
  induction l generalizing acc with
  | nil => exact (List.append_nil _).symm
  | cons a t ih =>
    rw [List.foldl_cons, ih, List.map_cons, List.filter_cons]
    split
    · exact List.append_assoc ..
    · rfl

/-- **C19 (the input of content negotiation)**: `parseAccept` as generated never panics — the `[0]` of the split is always
    there — and returns, in order, the media types of the comma-separated items with their parameters cut off, empty
    items dropped; the empty header gives the empty list -/
theorem C19_gen_parseAccept (h : Bytes) :
    Gen.parseAccept h =
      .ok (if h = [] then [] else ((Bytes.splitOnByte 44 h).map acceptItem).filter (fun x => x != [])) := by
  unfold Gen.parseAccept
  by_cases he : h = []
  · subst he; rfl
  · have hb : (h == ([] : Bytes)) = false := by simpa using he
    simp only [hb, he, if_false, Bool.false_eq_true, List.headD_cons]
    rw [GoRt.forIn_yield (Bytes.splitOnByte 44 h)
      (fun part r => if acceptItem part != [] then r ++ [acceptItem part] else r)]
    · rw [foldl_filter acceptItem (· != [])]; rfl
    · intro a _ b
      have hne := Bytes.split_ne_nil 59 a
      unfold acceptItem
      cases hs : Bytes.splitOnByte 59 a with
      | nil => exact absurd hs hne
      | cons x t =>
        by_cases hx : Bytes.trimSpace x = [] <;> simp [hx, bind, Except.bind, pure, Except.pure, GoRt.elemAt]

/-- `Context.AcceptedTypes` is `parseAccept` of the request's `Accept` header (what `Header.Get("Accept")` answers): it
    never panics and keeps nothing in the context -/
theorem C19_gen_acceptedTypes {γ : Type} (c : Gen.Ctx γ) (hdr : Option Nat → Bytes → List Bytes)
    (hget : Option Nat → Bytes → Bytes) (meth : Option Nat → Bytes) :
    Gen.Ctx.AcceptedTypes c hdr hget meth = Gen.parseAccept (hget c.req [0x41, 0x63, 0x63, 0x65, 0x70, 0x74]) ∧
    ∃ l, Gen.Ctx.AcceptedTypes c hdr hget meth = .ok l := by
  exact ⟨rfl, _, C19_gen_parseAccept _⟩

#guard ([0x41, 0x63, 0x63, 0x65, 0x70, 0x74] : Bytes) = Bytes.ofString "Accept"

end Rux
