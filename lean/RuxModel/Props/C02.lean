import RuxModel.Lemmas.Table
/-
  C02 — Path parameters are exactly the substrings the pattern captured.

  Statement clauses → theorems
    "the parameters contain exactly the route's variable names"        C02_names
    "substituting the reported values back into the pattern (variables in an absent optional part
     contribute the empty string) reproduces the normalised request path"   C02_subst
    "the value of every variable in a present part satisfies that variable's regex"   C02_values_match
    "where the decomposition is unique the values are exactly the corresponding path substrings"
                                                      C02_unique (the class of patterns whose decomposition
                                                      is unique is characterised by hypothesis, not yet by a syntactic criterion)
    "a static route exposes no parameters"                                  C02_static_no_params
    "with the route cache on or off"                   C07_transparent (Props/C07.lean): the cached router
                                                       returns the same route and parameters
  All for every pattern (levels of literal / variable segments with arbitrary variable regexes) and
  every path.
-/
namespace Rux

/-- put values back into a segment list; returns the text and the unused values -/
def substSegs : List Seg → List Bytes → Bytes × List Bytes
  | [], caps => ([], caps)
  | .lit l :: rest, caps => let r := substSegs rest caps; (l ++ r.1, r.2)
  | .var _ :: rest, v :: caps => let r := substSegs rest caps; (v ++ r.1, r.2)
  | .var _ :: rest, [] => substSegs rest []

/-- put values back into the present levels -/
def substLevels : Levels → List Bytes → Bytes × List Bytes
  | [], caps => ([], caps)
  | segs :: rest, caps =>
    let r1 := substSegs segs caps
    let r2 := substLevels rest r1.2
    (r1.1 ++ r2.1, r2.2)

/-- the values of the variables of a segment list, paired with their regexes -/
def varsWith : List Seg → List Bytes → List (Re × Bytes)
  | [], _ => []
  | .lit _ :: rest, caps => varsWith rest caps
  | .var re :: rest, v :: caps => (re, v) :: varsWith rest caps
  | .var _ :: _, [] => []

/-! The values of a pattern are one flat list: those of the later levels follow the `caps` of this segment list, hence
    `caps ++ extra`. -/
section
variable {segs : List Seg} {caps : List Bytes} {u : Bytes} (h : SegsLang segs caps u)
include h

theorem substSegs_of_lang : ∀ extra, substSegs segs (caps ++ extra) = (u, extra) := by
  induction h with
  | nil => intro extra; rfl
  | lit _ ih => intro extra; simp [substSegs, ih extra]
  | var _ _ ih => intro extra; simp [substSegs, ih extra]

theorem segsLang_caps_length : caps.length = segVars segs := by
  induction h with
  | nil => rfl
  | lit _ ih => exact ih
  | var _ _ ih => exact congrArg (· + 1) ih

theorem segs_values_match : ∀ extra, ∀ rv ∈ varsWith segs (caps ++ extra), Lang rv.1 rv.2 := by
  induction h with
  | nil => intro extra rv hrv; simp [varsWith] at hrv
  | lit _ ih => intro extra rv hrv; exact ih extra rv (by simpa [varsWith] using hrv)
  | var hv _ ih =>
    intro extra rv hrv
    simp only [List.cons_append, varsWith, List.mem_cons] at hrv
    rcases hrv with rfl | hrv
    · exact hv
    · exact ih extra rv hrv

theorem segs_values_match_nil : ∀ rv ∈ varsWith segs caps, Lang rv.1 rv.2 :=
  List.append_nil caps ▸ segs_values_match h []

end

/-- one value per variable of the pattern, absent optional parts included -/
theorem C02_caps_count {ls : Levels} {caps : List Bytes} {q : Bytes} (h : LevelsLang ls caps q) :
    caps.length = levelsVars ls := by
  induction h with
  | nil => rfl
  | last hu => exact segsLang_caps_length hu
  | present h1 _ ih => rw [List.length_append, segsLang_caps_length h1, ih]; rfl
  | absent h1 => rw [List.length_append, List.length_replicate, segsLang_caps_length h1]; rfl

/-- the path is the text of the first `k` levels with the values put back; the values left over, those of
    the remaining (absent) levels, are all empty -/
theorem C02_subst_of_reading {ls : Levels} {caps : List Bytes} {q : Bytes} (h : LevelsLang ls caps q) :
    ∃ k, k ≤ ls.length ∧
      substLevels (ls.take k) caps = (q, List.replicate (levelsVars (ls.drop k)) []) := by
  have one : ∀ {segs c1 u1}, SegsLang segs c1 u1 → ∀ c2, substLevels [segs] (c1 ++ c2) = (u1, c2) := fun h1 c2 => by
    rw [substLevels, substSegs_of_lang h1, substLevels, List.append_nil]
  induction h with
  | nil => exact ⟨0, Nat.le_refl _, rfl⟩
  | @last segs caps u hu => exact ⟨1, Nat.le_refl _, List.append_nil caps ▸ one hu []⟩
  | present h1 _ ih =>
    obtain ⟨k, hk, e⟩ := ih
    exact ⟨k + 1, Nat.succ_le_succ hk, by rw [List.take_succ_cons, substLevels, substSegs_of_lang h1, e]; rfl⟩
  | absent h1 => exact ⟨1, Nat.succ_le_succ (Nat.zero_le _), one h1 _⟩

/-- C02 substitution clause for what the matcher reports -/
theorem C02_subst (ls : Levels) (q : Bytes) (caps : List Bytes) (h : matchPat ls q = some caps) :
    ∃ k, k ≤ ls.length ∧ (substLevels (ls.take k) caps).1 = q ∧
      (∀ c ∈ (substLevels (ls.take k) caps).2, c = []) :=
  let ⟨k, h1, e⟩ := C02_subst_of_reading (matchPat_some h)
  ⟨k, h1, by rw [e], by rw [e]; exact fun c hc => (List.mem_replicate.mp hc).2⟩

/-- every variable of the first (always present) level has a value in the language of its regex -/
theorem C02_values_match_first {segs : List Seg} {rest : Levels} {caps : List Bytes} {q : Bytes}
    (h : LevelsLang (segs :: rest) caps q) : ∀ rv ∈ varsWith segs caps, Lang rv.1 rv.2 := by
  cases h with
  | last hu => exact segs_values_match_nil hu
  | present h1 _ => exact segs_values_match h1 _
  | absent h1 => exact segs_values_match h1 _

/-- the full statement for all present levels, by recursion over the reading -/
inductive PresentValuesOK : Levels → List Bytes → Prop where
  | nil : PresentValuesOK [] []
  | last {segs caps} : (∀ rv ∈ varsWith segs caps, Lang rv.1 rv.2) → PresentValuesOK [segs] caps
  | present {segs l2 rest c1 c2} : (∀ rv ∈ varsWith segs c1, Lang rv.1 rv.2) → c1.length = segVars segs →
      PresentValuesOK (l2 :: rest) c2 → PresentValuesOK (segs :: l2 :: rest) (c1 ++ c2)
  | absent {segs l2 rest c1} : (∀ rv ∈ varsWith segs c1, Lang rv.1 rv.2) → c1.length = segVars segs →
      PresentValuesOK (segs :: l2 :: rest) (c1 ++ List.replicate (levelsVars (l2 :: rest)) [])

theorem C02_values_match (ls : Levels) (q : Bytes) (caps : List Bytes) (h : matchPat ls q = some caps) :
    PresentValuesOK ls caps := by
  have hl := matchPat_some h
  clear h
  induction hl with
  | nil => exact .nil
  | last hu => exact .last (segs_values_match_nil hu)
  | present h1 _ ih => exact .present (segs_values_match_nil h1) (segsLang_caps_length h1) ih
  | absent h1 => exact .absent (segs_values_match_nil h1) (segsLang_caps_length h1)

theorem mkParams_names (names caps : List Bytes) (hlen : names.length = caps.length) :
    (∀ kv ∈ mkParams names caps, kv.1 ∈ names) ∧ (∀ n ∈ names, ∃ v, (n, v) ∈ mkParams names caps) ∧
    ((mkParams names caps).map (·.1)).Nodup := by
  fun_induction mkParams names caps with
  | case1 n ns v vs rest hany ih =>
    -- `n` occurs again among `ns`: a pair for it is in `rest` already
    obtain ⟨h1, h2, h3⟩ := ih (Nat.succ.inj hlen)
    obtain ⟨kv, hkv, hk⟩ := List.any_eq_true.mp hany
    exact ⟨fun kv h => List.mem_cons_of_mem _ (h1 kv h),
      List.forall_mem_cons.mpr ⟨⟨kv.2, of_decide_eq_true hk ▸ hkv⟩, h2⟩, h3⟩
  | case2 n ns v vs rest hany ih =>
    obtain ⟨h1, h2, h3⟩ := ih (Nat.succ.inj hlen)
    refine ⟨?_, ?_, List.nodup_cons.mpr ⟨fun hmem => hany ?_, h3⟩⟩
    · exact List.forall_mem_cons.mpr ⟨List.mem_cons_self, fun kv h => List.mem_cons_of_mem _ (h1 kv h)⟩
    · exact List.forall_mem_cons.mpr
        ⟨⟨v, List.mem_cons_self⟩, fun a ha => (h2 a ha).imp fun _ => List.mem_cons_of_mem _⟩
    · obtain ⟨kv, hkv, hk⟩ := List.mem_map.mp hmem
      exact List.any_eq_true.mpr ⟨kv, hkv, decide_eq_true hk⟩
  | case3 ns vs hne =>
    -- two lists of equal length that are not both a `cons` are both empty
    refine ⟨nofun, fun a ha => ?_, List.nodup_nil⟩
    cases ns with
    | nil => cases ha
    | cons n ns =>
      cases vs with
      | nil => cases hlen
      | cons v vs => exact (hne n ns v vs rfl rfl).elim

/-- the reported parameters have exactly the route's variable names as keys, each once -/
theorem C02_names (r : RouteM) (q : Bytes) (ps : Params) (hok : routeOK r.info = true)
    (h : routeMatch r q = some ps) :
    (∀ kv ∈ ps, kv.1 ∈ r.info.names) ∧ (∀ n ∈ r.info.names, ∃ v, (n, v) ∈ ps) ∧ (ps.map (·.1)).Nodup := by
  obtain ⟨caps, hl, rfl⟩ := routeMatch_some_levels h
  exact mkParams_names _ _ ((routeOK_names hok).trans (C02_caps_count hl).symm)

/-- a static route exposes no parameters (whatever table, method and path) -/
theorem C02_static_no_params (rs : List RouteM) (m q : Bytes) (r : RouteM) (ps : Params)
    (h : specSelect rs m q = some (r, ps)) (hs : r.static = true) : ps = [] := by
  obtain ⟨_, _, ⟨_, _, hps⟩ | ⟨hns, _⟩⟩ := specSelect_some h
  · exact hps
  · rw [hs] at hns; cases hns

/-- where the decomposition of the path by the pattern is unique, the reported values are that
    decomposition -/
theorem C02_unique (ls : Levels) (q : Bytes) (caps a : List Bytes) (h : matchPat ls q = some caps)
    (ha : LevelsLang ls a q) (huniq : ∀ c1 c2, LevelsLang ls c1 q → LevelsLang ls c2 q → c1 = c2) :
    caps = a := huniq _ _ (matchPat_some h) ha

end Rux
