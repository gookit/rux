import RuxModel.Props.C10Gen
import RuxModel.Lemmas.Rt
/-
  The per-request data map (`Context.Set/Get/SafeGet/Data`), the error list, `AbortThen`, `HandlersChain.Last`, the six
  adapters of middleware.go, `Copy`, `Param`, `SetHandlers` and the readers of query, form and request values on the
  code GENERATED from context.go / middleware.go (Generated/Code.lean, regenerated by go/go2lean on every check run).
-/
namespace Rux
open GoRt

variable {γ : Type}

/-- `c.Set(k, v)` as generated is the `dataSet` that the translation of `handleHTTPRequest` uses for its `ctx.Set(…)`
    calls: the map is created when it is nil, the pair replaces any earlier pair with that key, nothing else changes -/
theorem C10_gen_set_eq (c : Gen.Ctx γ) (k : Bytes) (v : DV) :
    Gen.Ctx.Set c k v = { c with data := dataSet c.data k v } := by
  obtain ⟨i, w, rq, ps, d, es, hs, ro, g⟩ := c
  cases d <;> rfl

/-- a value stored is the value read back under that key; every other key reads what it read before -/
theorem C10_gen_get_set (c : Gen.Ctx γ) (k k' : Bytes) (v : DV) :
    Gen.Ctx.Get (Gen.Ctx.Set c k v) k = (v, true) ∧
    (k' ≠ k → Gen.Ctx.Get (Gen.Ctx.Set c k v) k' = Gen.Ctx.Get c k') := by
  have hg : ∀ (c : Gen.Ctx γ) k, Gen.Ctx.Get c k = dataGet c.data k := fun _ _ => rfl
  rw [hg, hg, hg, C10_gen_set_eq, dataGet_dataSet, dataGet_dataSet, if_pos rfl]
  exact ⟨rfl, fun h => if_neg h⟩

/-- **C10**: on the context `Init` hands to the dispatcher NO key is set, whatever the pooled context had stored:
    `Get` finds nothing, `SafeGet` gives the zero value, `Data()` is nil -/
theorem C10_gen_init_no_data (c : Gen.Ctx γ) (w : Unit) (r : Option Nat) (k : Bytes) :
    Gen.Ctx.Get (Gen.Ctx.Init c w r) k = (default, false) ∧
    Gen.Ctx.SafeGet (Gen.Ctx.Init c w r) k = default ∧
    Gen.Ctx.Data (Gen.Ctx.Init c w r) = none := by
  rw [C10_gen_init_pristine]
  refine ⟨rfl, rfl, rfl⟩

/-- the error list: `AddError(nil)` records nothing, `AddError(err)` appends exactly that error; `FirstError()` never
    panics — nil when nothing was recorded, otherwise the error recorded first; after `Init` it is nil -/
theorem C10_gen_errors (c : Gen.Ctx γ) (e : Nat) (w : Unit) (r : Option Nat) :
    Gen.Ctx.AddError c none = c ∧
    Gen.Ctx.AddError c (some e) = { c with errors := c.errors ++ [e] } ∧
    Gen.Ctx.FirstError c = .ok c.errors.head? ∧
    Gen.Ctx.FirstError (Gen.Ctx.Init c w r) = .ok none := by
  refine ⟨rfl, rfl, ?_, ?_⟩
  · unfold Gen.Ctx.FirstError
    cases h : c.errors with
    | nil => rfl
    | cons a t => exact if_pos (len_pos_cons a t)
  · rw [C10_gen_init_pristine]
    rfl

/-- **C05**: `AbortThen()` is `Abort()` that returns the context: the cursor is at `abortIndex`, `IsAborted()` is true
    afterwards, nothing else changes -/
theorem C05_gen_abortThen (c : Gen.Ctx γ) :
    Gen.Ctx.AbortThen c = (Gen.Ctx.Abort c, Gen.Ctx.Abort c) ∧ Gen.Ctx.IsAborted (Gen.Ctx.Abort c) = true :=
  ⟨rfl, rfl⟩

/-- **C20 (wrapped handlers take part in the chain like native ones)**: each of the six adapters yields a handler that
    calls the wrapped std handler exactly once, with `c.Resp` and `c.Req` in that order, and does nothing else with the
    context — no `Abort`, no `Next`: like any native handler that returns, it is followed by the rest of the chain -/
theorem C20_gen_adapters (h : Nat) (c : List (Nat × CArg × CArg)) :
    Gen.WrapHTTPHandler h c = c ++ [(h, .resp, .req)] ∧ Gen.WrapHTTPHandlerFunc h c = c ++ [(h, .resp, .req)] ∧
    Gen.WrapH h c = c ++ [(h, .resp, .req)] ∧ Gen.HTTPHandler h c = c ++ [(h, .resp, .req)] ∧
    Gen.WrapHF h c = c ++ [(h, .resp, .req)] ∧ Gen.HTTPHandlerFunc h c = c ++ [(h, .resp, .req)] :=
  ⟨rfl, rfl, rfl, rfl, rfl, rfl⟩

/-- **C04**: `HandlersChain.Last()` never panics: nil for an empty chain, otherwise the last handler (the main one) -/
theorem C04_gen_last (hs : List Nat) : Gen.HandlersChain.Last hs = .ok hs.getLast? := by
  unfold Gen.HandlersChain.Last
  cases hs with
  | nil => rfl
  | cons a t =>
    have hi : ((a :: t).length : Int) - 1 = (t.length : Nat) := by
      rw [List.length_cons, Int.natCast_succ, Int.add_sub_cancel]
    dsimp only
    rw [len_pos_cons, hi, listAt_nat _ (Nat.lt_succ_self _), List.getLast?_eq_getElem?]
    exact congrArg Except.ok (List.getElem?_eq_getElem (Nat.lt_succ_self _)).symm

/-- **C03 / C10 (`Context.Copy`)**: the copy keeps the request, the params, the data and the errors of the context it
    was taken from, has NO handler chain (`handlers = nil`: nothing of the request's chain — which lives in a slice the
    next request may reuse — is reachable from it) and is aborted (`index = abortIndex`) -/
theorem C03_gen_copy (c : Gen.Ctx γ) :
    Gen.Ctx.Copy c = { c with handlers := [], index := 63 } ∧ Gen.Ctx.IsAborted (Gen.Ctx.Copy c) = true :=
  ⟨rfl, rfl⟩

/-- **C02**: `c.Param(k)` / `Params.String(k)` is the value stored under `k`, the empty string when there is none (also on
    a nil map); `Params.Has(k)` says whether the key is present -/
theorem C02_gen_param (c : Gen.Ctx γ) (k : Bytes) :
    Gen.Ctx.Param c k = (kvGetO c.params k).1 ∧
    (∀ p : Option KV, Gen.Params.String p k = (kvGetO p k).1 ∧ Gen.Params.Has p k = (kvGetO p k).2) ∧
    Gen.Params.String none k = [] ∧ Gen.Params.Has none k = false := by
  have hs : ∀ p : Option KV, Gen.Params.String p k = (kvGetO p k).1 := by
    intro p
    unfold Gen.Params.String kvGetO
    cases (p.getD []).find? (fun x => x.1 == k) <;> rfl
  refine ⟨?_, fun p => ⟨hs p, rfl⟩, rfl, rfl⟩
  exact hs c.params

/-- the value a query reader answers for a parse result `(vs, ok)` of `c.Req.URL.Query()[key]` -/
def firstValue (r : List Bytes × Bool) : Bytes × Bool :=
  match r with
  | (v :: _, true) => (v, true)
  | _ => ([], false)

/-- **C10 (the URL-query readers keep nothing in the context)**: `QueryParams`, `QueryParam`, `Query` as generated are
    functions of the request's own query (`query c.req key`, the parse of the raw query at the moment of the call) and of
    the arguments — no field of the context is read or written, so two contexts that carry the same request answer
    alike whatever they served before, and a reader that edits the map it got edits its own parse.  `QueryParam` never
    panics (the `vs[0]` is guarded), `Query` falls back to the first default. -/
theorem C10_gen_query_readers {γ : Type} (c : Gen.Ctx γ) (key : Bytes) (dv : List Bytes)
    (query : Option Nat → Bytes → List Bytes × Bool) :
    Gen.Ctx.QueryParams c key query =
      (if (query c.req key).2 && decide (0 < (query c.req key).1.length) then query c.req key else ([], false)) ∧
    Gen.Ctx.QueryParam c key query = .ok (firstValue (query c.req key)) ∧
    Gen.Ctx.Query c key dv query =
      .ok (if (firstValue (query c.req key)).2 then (firstValue (query c.req key)).1 else dv.headD []) := by
  have h1 : Gen.Ctx.QueryParams c key query =
      (if (query c.req key).2 && decide (0 < (query c.req key).1.length) then query c.req key else ([], false)) := by
    unfold Gen.Ctx.QueryParams
    rcases query c.req key with ⟨_ | ⟨a, t⟩, _ | _⟩
    · rfl
    · rfl
    · rfl
    · exact if_pos (len_pos_cons a t)
  have h2 : Gen.Ctx.QueryParam c key query = .ok (firstValue (query c.req key)) := by
    unfold Gen.Ctx.QueryParam
    rw [h1]
    rcases query c.req key with ⟨_ | ⟨a, t⟩, _ | _⟩ <;> rfl
  refine ⟨h1, h2, ?_⟩
  unfold Gen.Ctx.Query
  rw [h2]
  rcases firstValue (query c.req key) with ⟨v, _ | _⟩
  · cases dv with
    | nil => rfl
    | cons a t => exact if_pos (len_pos_cons a t)
  · rfl

/-- … in particular: the same request, the same answer, whatever else the two contexts hold -/
theorem C10_gen_query_same_request {γ : Type} (c c' : Gen.Ctx γ) (h : c.req = c'.req) (key : Bytes) (dv : List Bytes)
    (query : Option Nat → Bytes → List Bytes × Bool) :
    Gen.Ctx.Query c key dv query = Gen.Ctx.Query c' key dv query ∧
    Gen.Ctx.QueryParams c key query = Gen.Ctx.QueryParams c' key query := by
  rw [(C10_gen_query_readers c key dv query).2.2, (C10_gen_query_readers c' key dv query).2.2,
    (C10_gen_query_readers c key dv query).1, (C10_gen_query_readers c' key dv query).1, h]
  exact ⟨rfl, rfl⟩

/-- **C10 / C04 (`Context.SetHandlers`)**: it replaces the chain of the context it is called on and nothing else (the
    cursor, the data, the params, the errors, the writer stay); the chain it installed does not survive the context's
    return to the pool — `Reset` and `Init` leave an empty chain, whatever was installed -/
theorem C10_gen_setHandlers {γ : Type} (c : Gen.Ctx γ) (hs : List Unit) (r : Option Nat) :
    Gen.Ctx.SetHandlers c hs = { c with handlers := hs } ∧
    (Gen.Ctx.Reset (Gen.Ctx.SetHandlers c hs)).handlers = [] ∧
    (Gen.Ctx.Init (Gen.Ctx.SetHandlers c hs) () r).handlers = [] ∧
    Gen.Ctx.Init (Gen.Ctx.SetHandlers c hs) () r = Gen.Ctx.Init c () r :=
  ⟨rfl, rfl, rfl, rfl⟩

/-- **C10 (the request readers keep nothing in the context)**: `Header` is the first value the request's header map
    holds under the key as written ("" when there is none; the `values[0]` is guarded, it never panics); `Header`,
    `IsAjax`, `IsGet`, `IsPost`, `IsMethod`, `IsWebSocket`, `ContentType` as generated read `c.Req` and nothing else of
    the context: two contexts that carry the same request answer alike, whatever they served before. -/
theorem C10_gen_request_readers {γ : Type} (c c' : Gen.Ctx γ) (h : c.req = c'.req) (k m : Bytes)
    (hdr : Option Nat → Bytes → List Bytes) (hget : Option Nat → Bytes → Bytes) (meth : Option Nat → Bytes) :
    Gen.Ctx.Header c k hdr hget meth = .ok ((hdr c.req k).headD []) ∧
    Gen.Ctx.Header c k hdr hget meth = Gen.Ctx.Header c' k hdr hget meth ∧
    Gen.Ctx.IsAjax c hdr hget meth = Gen.Ctx.IsAjax c' hdr hget meth ∧
    Gen.Ctx.IsGet c hdr hget meth = Gen.Ctx.IsGet c' hdr hget meth ∧
    Gen.Ctx.IsPost c hdr hget meth = Gen.Ctx.IsPost c' hdr hget meth ∧
    Gen.Ctx.IsMethod c m hdr hget meth = Gen.Ctx.IsMethod c' m hdr hget meth ∧
    Gen.Ctx.IsWebSocket c hdr hget meth = Gen.Ctx.IsWebSocket c' hdr hget meth ∧
    Gen.Ctx.ContentType c hdr hget meth = Gen.Ctx.ContentType c' hdr hget meth := by
  have header_eq : ∀ (d : Gen.Ctx γ) (k : Bytes), Gen.Ctx.Header d k hdr hget meth = .ok ((hdr d.req k).headD []) := by
    intro d k
    unfold Gen.Ctx.Header
    cases hdr d.req k with
    | nil => rfl
    | cons a t => exact if_pos (len_pos_cons a t)
  refine ⟨header_eq c k, by rw [header_eq, header_eq, h], ?_, ?_, ?_, ?_, ?_, ?_⟩
  · unfold Gen.Ctx.IsAjax; rw [header_eq, header_eq, h]
  · unfold Gen.Ctx.IsGet; rw [h]
  · unfold Gen.Ctx.IsPost; rw [h]
  · unfold Gen.Ctx.IsMethod; rw [h]
  · unfold Gen.Ctx.IsWebSocket; simp only [header_eq, h]
  · unfold Gen.Ctx.ContentType; rw [h]

/-- **C10 (the body-form readers keep nothing in the context)**: `PostParams`, `PostParam`, `Post` as generated are
    functions of the request's own posted form (`post c.req key`, what `req.PostForm[key]` holds after net/http parsed the
    body) and of the arguments; `PostParam` never panics, `Post` falls back to the first default -/
theorem C10_gen_post_readers {γ : Type} (c : Gen.Ctx γ) (key : Bytes) (dv : List Bytes) (post : Option Nat → Bytes → List Bytes) :
    Gen.Ctx.PostParams c key post = (if 0 < (post c.req key).length then (post c.req key, true) else ([], false)) ∧
    Gen.Ctx.PostParam c key post = .ok (firstValue (post c.req key, true)) ∧
    Gen.Ctx.Post c key dv post =
      .ok (if (firstValue (post c.req key, true)).2 then (firstValue (post c.req key, true)).1 else dv.headD []) := by
  -- the three functions are copies of the query readers; they are those of a query that answers `(post r k, true)`
  have h1 : Gen.Ctx.PostParams c key post = Gen.Ctx.QueryParams c key fun r k => (post r k, true) := rfl
  have h2 : Gen.Ctx.PostParam c key post = Gen.Ctx.QueryParam c key fun r k => (post r k, true) := by
    unfold Gen.Ctx.PostParam Gen.Ctx.QueryParam
    rw [h1]
  have h3 : Gen.Ctx.Post c key dv post = Gen.Ctx.Query c key dv fun r k => (post r k, true) := by
    unfold Gen.Ctx.Post Gen.Ctx.Query
    rw [h2]
  obtain ⟨q1, q2, q3⟩ := C10_gen_query_readers c key dv fun r k => (post r k, true)
  rw [h1, h2, h3]
  exact ⟨q1.trans (by simp), q2, q3⟩

-- non-vacuity
example : (Gen.Ctx.Get (Gen.Ctx.Set (Gen.Ctx.Set dirtyCtx [1] (.str [2])) [3] (.str [9])) [3]) = (.str [9], true) := by decide
example : Gen.HandlersChain.Last [4, 5, 6] = .ok (some 6) := by decide

end Rux
