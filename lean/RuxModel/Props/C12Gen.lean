import RuxModel.Generated.Code
import RuxModel.Tie.Path
import RuxModel.Props.C11Tie
/-
  C12 (and the registration-time clauses of C05 / C13) on the code GENERATED from router.go `Group`,
  middleware.go `Router.Use`, route.go `Route.Use`, `Route.goodInfo`, `isSupportedMethod` (Generated/Code.lean,
  regenerated by go/go2lean on every check run).  Handlers are identities (natural numbers); the callback of
  `Group` is any function on the router record that may panic; `combineHandlers` is modelled as list
  concatenation into a fresh slice (that the slice is fresh — no aliasing with the caller's or the parent's array —
  is what C12_no_alias proves on the heap model and the `reg` engine checks on the real code).
-/
namespace Rux

/-- inside the callback of `Group(prefix, fn, middles...)` the prefix in effect is the previous one followed by
    the normalised `prefix`, and the group middleware is the previous one followed by `middles`; when the callback
    returns (without panic) both are exactly what they were before the call, whatever the callback did to them -/
theorem C12_gen_group (r : Gen.Router) (pfx : Bytes) (register : Gen.Router → Except Panic Gen.Router)
    (middles : List Nat) :
    Gen.Router.Group r pfx register middles =
      (register { r with
          currentGroupPrefix := r.currentGroupPrefix ++ fmtPath r.strictLastSlash pfx,
          currentGroupHandlers := if middles.length > 0 then r.currentGroupHandlers ++ middles else r.currentGroupHandlers }).map
        (fun r' => { r' with currentGroupPrefix := r.currentGroupPrefix,
                             currentGroupHandlers := r.currentGroupHandlers }) := by
  unfold Gen.Router.Group
  simp only [Tie.tie_formatPath, C11_table_normaliser, bind, Except.bind, pure, Except.pure, Id.run,
    gt_iff_lt, Int.natCast_pos, decide_eq_true_eq]
  by_cases hm : 0 < middles.length <;> simp only [hm, if_true, if_false] <;> cases register _ <;> rfl

/-- no residue: after `Group` returned, prefix and group middleware are those of before -/
theorem C12_gen_group_restores (r r' : Gen.Router) (pfx : Bytes) (register : Gen.Router → Except Panic Gen.Router)
    (middles : List Nat) (h : Gen.Router.Group r pfx register middles = .ok r') :
    r'.currentGroupPrefix = r.currentGroupPrefix ∧ r'.currentGroupHandlers = r.currentGroupHandlers := by
  rw [C12_gen_group] at h
  cases hr : register _ with
  | error e => rw [hr] at h; cases h
  | ok x =>
    rw [hr] at h
    cases h
    exact ⟨rfl, rfl⟩

/-- a panic of the callback propagates unchanged -/
theorem C12_gen_group_panic (r : Gen.Router) (pfx : Bytes) (register : Gen.Router → Except Panic Gen.Router)
    (middles : List Nat) (p : Panic) (h : ∀ x, register x = .error p) :
    Gen.Router.Group r pfx register middles = .error p := by
  rw [C12_gen_group]; simp only [h, Except.map]

/-- `Router.Use` inside a group (non-empty prefix in effect) extends the group middleware only; at top level it
    extends the global middleware only -/
theorem C12_gen_use (r : Gen.Router) (middles : List Nat) :
    (r.currentGroupPrefix ≠ [] →
      Gen.Router.Use r middles = { r with currentGroupHandlers := r.currentGroupHandlers ++ middles }) ∧
    (r.currentGroupPrefix = [] → Gen.Router.Use r middles = { r with handlers := r.handlers ++ middles }) := by
  constructor <;> intro h <;> simp [Gen.Router.Use, Id.run, GoRt.idPure, h]

/-- `Route.Use` refuses (panics) exactly when the route would have `abortIndex` (63) or more handlers, and
    otherwise appends the middleware in order -/
theorem C05_gen_route_use_limit (r : Gen.Route) (mw : List Nat) :
    (r.handlers.length + mw.length ≥ 63 → Gen.Route.Use r mw = .error .value) ∧
    (r.handlers.length + mw.length < 63 →
      Gen.Route.Use r mw = .ok ({ r with handlers := r.handlers ++ mw }, { r with handlers := r.handlers ++ mw })) := by
  unfold Gen.Route.Use
  simp only [bind, Except.bind, pure, Except.pure, throw, throwThe, MonadExceptOf.throw, ge_iff_le, ← Int.natCast_add,
    show (63 : Int) = ((63 : Nat) : Int) from rfl, Int.ofNat_le, decide_eq_true_eq]
  constructor <;> intro h
  · rw [if_pos h]
  · rw [if_neg (by omega)]

theorem C13_gen_route_use_limit (r : Gen.Route) (mw : List Nat) (h : r.handlers.length + mw.length ≥ 63) :
    Gen.Route.Use r mw = .error .value := (C05_gen_route_use_limit r mw).1 h

/-- the generated method test is exact membership in the list of supported methods (F4: not a substring test) -/
theorem C13_gen_supported_exact (m : Bytes) : Gen.isSupportedMethod m = decide (m ∈ Facts.anyMethodsB) := by
  unfold Gen.isSupportedMethod
  generalize Facts.anyMethodsB = l
  simp only [Id.run, bind, pure]
  induction l with
  | nil => rfl
  | cons a t ih =>
    by_cases h : a = m
    · simp [h, bind, pure]
    · simpa [h, Ne.symm h, bind, pure] using ih

theorem forIn_check {α : Type} (p : α → Prop) [DecidablePred p] (e : Panic) (l : List α) :
    forIn l PUnit.unit (fun a (_ : PUnit) =>
      if (!decide (p a)) = true then (Except.error e : Except Panic (ForInStep PUnit)) else .ok (.yield PUnit.unit)) =
      if ∀ a ∈ l, p a then .ok PUnit.unit else .error e := by
  induction l with
  | nil => simp [pure, Except.pure]
  | cons a t ih =>
    rw [List.forIn_cons]
    by_cases ha : p a
    · simp only [ha, decide_true, Bool.not_true, Bool.false_eq_true, if_false, bind, Except.bind, ih, List.mem_cons,
        forall_eq_or_imp, true_and]
    · simp [ha, bind, Except.bind]

/-- the generated `goodInfo` accepts a definition exactly when it has a handler, at least one method, and every
    method is one of the supported names; otherwise it panics (at registration time) -/
theorem C13_gen_goodInfo (r : Gen.Route) :
    Gen.Route.goodInfo r =
      if r.handler.isSome ∧ r.methods ≠ [] ∧ ∀ m ∈ r.methods, m ∈ Facts.anyMethodsB then .ok () else .error .value := by
  unfold Gen.Route.goodInfo
  simp only [bind, Except.bind, pure, Except.pure, throw, throwThe, MonadExceptOf.throw, C13_gen_supported_exact,
    forIn_check (· ∈ Facts.anyMethodsB)]
  cases r.handler with
  | none => simp
  | some h =>
    cases r.methods with
    | nil => simp
    | cons a t =>
      have : (((a :: t).length : Int) == 0) = false := rfl
      simp only [Option.isNone_some, Option.isSome_some, this, Bool.false_eq_true, if_false, ne_eq, reduceCtorEq,
        not_false_eq_true, true_and]
      by_cases hall : ∀ m ∈ a :: t, m ∈ Facts.anyMethodsB
      · rw [if_pos hall]
      · rw [if_neg hall]

/-- `appendGroupInfo` as generated: the stored path is the normalised route path, prefixed with the group prefix in
    effect and normalised again; the route gets the group middleware IN FRONT of its own; the merged chain is
    refused when it reaches the handler limit (only checked when there is group middleware: the route's own
    count was checked by `Route.Use`) -/
theorem C12_gen_appendGroupInfo (r : Gen.Router) (route : Gen.Route) :
    Gen.Router.appendGroupInfo r route =
      let path := if r.currentGroupPrefix ≠ [] then
          fmtPath r.strictLastSlash (r.currentGroupPrefix ++ fmtPath r.strictLastSlash route.path)
        else fmtPath r.strictLastSlash route.path
      if r.currentGroupHandlers.length > 0 then
        if r.currentGroupHandlers.length + route.handlers.length ≥ 63 then .error .value
        else .ok { route with handlers := r.currentGroupHandlers ++ route.handlers, path := path }
      else .ok { route with path := path } := by
  unfold Gen.Router.appendGroupInfo
  -- with `Nat` comparisons only the place of the prefix test differs
  simp only [Tie.tie_formatPath, C11_table_normaliser, bind, Except.bind, pure, Except.pure, throw, throwThe,
    MonadExceptOf.throw, gt_iff_lt, ge_iff_le, Int.natCast_pos, List.length_append,
    show (63 : Int) = ((63 : Nat) : Int) from rfl, Int.ofNat_le, decide_eq_true_eq, bne_iff_ne]
  cases r.currentGroupPrefix <;> rfl

/-- the merged chain of an accepted registration stays below the handler limit -/
theorem C05_gen_group_limit (r : Gen.Router) (route route' : Gen.Route)
    (h : Gen.Router.appendGroupInfo r route = .ok route') (hg : r.currentGroupHandlers.length > 0) :
    route'.handlers.length < 63 := by
  rw [C12_gen_appendGroupInfo] at h
  simp only [hg, if_true] at h
  split at h
  · cases h
  · cases h
    simp only [List.length_append]
    omega

/-- `formatMethods` as generated: trim, drop the empty names, upper-case -/
theorem C13_gen_formatMethods (ms : List Bytes) :
    Gen.formatMethods ms = ((ms.map Bytes.trimSpace).filter (· ≠ [])).map Bytes.toUpper := by
  unfold Gen.formatMethods
  simp only [Id.run, bind, pure]
  -- from any accumulator; the body is found by unification
  suffices h : ∀ acc, forIn (m := Id) ms acc _ = (acc ++ ((ms.map Bytes.trimSpace).filter (· ≠ [])).map Bytes.toUpper : List Bytes)
    from h []
  intro acc
  induction ms generalizing acc with
  | nil => simp [pure]
  | cons a t ih =>
    rw [List.forIn_cons]
    simp only [bind, ih]
    by_cases ha : Bytes.trimSpace a = [] <;> simp [ha]

/-- `formatMethodsWithDefault`: no method given = the default method alone; otherwise the formatted list — which is
    EMPTY when every given name is blank, so that `goodInfo` rejects it (C13: an empty method name is refused) -/
theorem C13_gen_formatMethodsWithDefault (ms : List Bytes) (d : Bytes) :
    Gen.formatMethodsWithDefault ms d =
      if ms = [] then [d] else ((ms.map Bytes.trimSpace).filter (· ≠ [])).map Bytes.toUpper := by
  unfold Gen.formatMethodsWithDefault
  simp only [Id.run, pure, C13_gen_formatMethods]
  cases ms with
  | nil => simp
  | cons a t =>
    have : (((a :: t).length : Int) == 0) = false := rfl
    simp only [this, Bool.false_eq_true, if_false, reduceCtorEq]

-- non-vacuity: nested groups with middleware on the generated code
example :
    Gen.Router.Group { (default : Gen.Router) with currentGroupPrefix := [0x2F, 0x61] } [0x62, 0x2F]
      (fun r => .ok { r with counter := r.currentGroupHandlers.length }) [7, 8] =
    .ok { (default : Gen.Router) with currentGroupPrefix := [0x2F, 0x61], counter := 2 } := by decide

end Rux
