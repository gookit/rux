import RuxModel.Tie.Match
import RuxModel.Tie.Cache
import RuxModel.Tie.Copy
import RuxModel.Props.C14
/-
  **A repeated dynamic request is answered from the route cache with the same route and the same parameters** — on
  GENERATED code end to end: the generated `Router.match` (parse_match.go) whose cache operations are the generated
  `cachedRoutes.Get` / `Set` (route_cache.go), whose `cacheDynamicRoute` is the generated one (with the generated
  `Route.copyWithParams` and `Params.clone` of route.go inside).  The static table, the two maps of route lists and the
  per-route regexp match are parameters (`GTables`, `mr`); the router state that changes is the cache.
-/
namespace Rux
open Tie GoRt

/-- the read-only part of the router state as `match` sees it -/
structure GTables where
  stable : Bytes → Option Gen.Route
  regular : Bytes → List Gen.Route × Bool
  irregular : Bytes → List Gen.Route × Bool

/-- the environment of the generated `match`: cache operations = the generated cache code -/
def envC (g : Gen.Router) (t : GTables) (ord : KV → KV) (mr : Gen.Route → Bytes → Option KV × Bool) :
    MEnv (Gen.CR Gen.Route) Gen.Route KV where
  stable _ k := t.stable k
  cacheGet c k := (((Gen.CR.Get c k).2.1, (Gen.CR.Get c k).2.2), (Gen.CR.Get c k).1)
  paramsClone r := r.bind fun r => Gen.Params.clone r.params ord
  regular _ k := t.regular k
  irregular _ k := t.irregular k
  start r := r.start
  matchRegex r p := mr r p
  cacheDynamic c key ps r := Gen.Router.cacheDynamicRoute g key ps r (fun c k v => (Gen.CR.Set c k (some v)).1) ord c

theorem gen_get_after_set (c : Gen.CR Gen.Route) (k : Bytes) (v : Gen.Route) (h : Inv c) (hc : c.size ≥ 1) :
    (Gen.CR.Get (Gen.CR.Set c k (some v)).1 k).2 = (some v, true) ∧ Inv (Gen.CR.Get (Gen.CR.Set c k (some v)).1 k).1 := by
  obtain ⟨hi, ha, _⟩ := tie_Set c k (some v) h
  obtain ⟨hi2, _, hfound, hval⟩ := tie_Get (Gen.CR.Set c k (some v)).1 k hi
  -- model cache: a key just stored is the most recent one, so `get` finds it
  have := (C14_get_is_lookup _ k).trans
    (Cache.lookup_of_head? (C14_mru_set (absC c) k (some v) (show c.size.toNat ≥ 1 by omega)))
  rw [ha, this] at hfound hval
  exact ⟨Prod.ext hval hfound, hi2⟩

theorem dynSpec_stores (g : Gen.Router) (t : GTables) (ord : KV → KV) (mr : Gen.Route → Bytes → Option KV × Bool)
    (m p : Bytes) (c c1 : Gen.CR Gen.Route) (r : Gen.Route) (ps : Option KV)
    (h : dynSpec (envC g t ord mr) m p c = .ok (c1, some r, ps)) :
    c1 = (envC g t ord mr).cacheDynamic c (m ++ p) ps r ∧ ps = (mr r p).1 :=
  dynSpec_route h

/-- **C14 / C07 on generated code**: on a caching router whose cache has room for at least one entry, when a request
    `(m, p)` that is not in the static table and not in the cache is resolved by the dynamic tiers to route `r` with
    params `ps`, then the SAME request on the state that lookup left behind is answered from the cache — by a route with
    `r`'s name, path, methods, main handler and middleware chain, and with params that are the same map as `ps`
    (`nil` when `ps` is nil), for every visiting order of Go's map iteration -/
theorem C14_gen_repeat_from_cache (g : Gen.Router) (t : GTables) (ord : KV → KV) (mr : Gen.Route → Bytes → Option KV × Bool)
    (m p : Bytes) (c c1 : Gen.CR Gen.Route) (r : Gen.Route) (ps : Option KV)
    (hg : g.enableCaching = true) (hinv : Inv c) (hcap : c.size ≥ 1)
    (hstable : t.stable (m ++ p) = none) (hmiss : (Gen.CR.Get c (m ++ p)).2.2 = false)
    (hord : ∀ l, (ord l).Perm l) (hkeys : ∀ l, ps = some l → KeysNodup l)
    (h : Gen.Router.match_ g m p (envC g t ord mr) c = .ok (c1, some r, ps)) :
    ∃ c2 r2 ps2, Gen.Router.match_ g m p (envC g t ord mr) c1 = .ok (c2, some r2, ps2) ∧
      r2.name = r.name ∧ r2.path = r.path ∧ r2.methods = r.methods ∧ r2.handler = r.handler ∧ r2.handlers = r.handlers ∧
      (ps = none → ps2 = none) ∧
      (∀ l, ps = some l → ∃ l2, ps2 = some l2 ∧ l2.length = l.length ∧ ∀ k, kvFind l2 k = kvFind l k) := by
  rw [gen_match_eq_spec] at h ⊢
  unfold matchSpec at h
  have hst : ∀ c', ((envC g t ord mr).stable c' (m ++ p)).isSome = false := fun _ => congrArg Option.isSome hstable
  have hcg : ((envC g t ord mr).cacheGet c (m ++ p)).1.2 = false := hmiss
  simp only [hst, Bool.false_eq_true, if_false, hg, if_true, hcg] at h
  obtain ⟨hc1, _⟩ := dynSpec_stores g t ord mr m p _ c1 r ps h
  -- the state after the first lookup: Get (a miss keeps the invariant), then the store of the copy
  obtain ⟨hiG, _, _, _⟩ := tie_Get c (m ++ p) hinv
  have hsz : (Gen.CR.Get c (m ++ p)).1.size = c.size := by
    simp only [Gen.CR.Get, Id.run, GoRt.idPure]; split <;> rfl
  have hc1' : c1 = (Gen.CR.Set (Gen.CR.Get c (m ++ p)).1 (m ++ p) (some (Gen.Route.copyWithParams r ps ord))).1 := by
    rw [hc1]; simp only [envC, cacheDynamicRoute_eq, hg, if_true]
  obtain ⟨hget, _⟩ := gen_get_after_set (Gen.CR.Get c (m ++ p)).1 (m ++ p) (Gen.Route.copyWithParams r ps ord) hiG (by omega)
  rw [← hc1'] at hget
  unfold matchSpec
  have hcg1 : ((envC g t ord mr).cacheGet c1 (m ++ p)).1 = (some (Gen.Route.copyWithParams r ps ord), true) := hget
  simp only [hst, Bool.false_eq_true, if_false, hg, if_true, hcg1]
  refine ⟨_, _, _, rfl, rfl, rfl, rfl, rfl, rfl, ?_, ?_⟩
  · intro hn; subst hn; rfl
  · intro l hl
    subst hl
    have hn := hkeys l rfl
    -- the cached params are the clone of `ps`; what the hit returns is the clone of that clone
    obtain ⟨l1, h1, hp1⟩ := clone_perm l ord (hord l) hn
    obtain ⟨l2, h2, hp2⟩ := clone_perm l1 ord (hord l1) (hn.perm hp1)
    refine ⟨l2, ?_, (hp2.trans hp1).length_eq, kvFind_perm (hp2.trans hp1) hn⟩
    simp [envC, copyWithParams_eq, h1, h2]

-- non-vacuity: one irregular GET route `/{id}` (the regexp match is a table here), an empty cache of capacity 2, the
-- request GET /7: the first lookup goes through the dynamic tiers and stores, so the premises of the theorem hold
def demoRoute : Gen.Route :=
  { name := [1], path := [2], methods := [[71, 69, 84]], handler := some 0, handlers := [5], matches_ := [[105, 100]], start := [], spath := [], regex := some [9] }
def demoTables : GTables :=
  { stable := fun _ => none, regular := fun _ => ([], false), irregular := fun m => if m = [71, 69, 84] then ([demoRoute], true) else ([], false) }
def demoMr : Gen.Route → Bytes → Option KV × Bool := fun _ p => if p = [47, 55] then (some [([105, 100], [55])], true) else (none, false)
def demoG : Gen.Router := { (default : Gen.Router) with enableCaching := true }

example : (Gen.Router.match_ demoG [71, 69, 84] [47, 55] (envC demoG demoTables id demoMr) (genNew 2)).toOption.map
      (fun x => (x.2.1.map (·.name), x.2.2)) = some (some [1], some [([105, 100], [55])]) ∧
    (Gen.CR.Get (genNew 2 : Gen.CR Gen.Route) ([71, 69, 84] ++ [47, 55])).2.2 = false := by decide

end Rux
