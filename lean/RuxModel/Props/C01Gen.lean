import RuxModel.Tie.Match
import RuxModel.Tie.Append
import RuxModel.Lemmas.Transparent
import RuxModel.Props.C01
import RuxModel.Props.C13
import RuxModel.Props.C07
/-
  C01 / C13 on the code GENERATED from parse_match.go `Router.match` (Generated/Code.lean, regenerated by
  go/go2lean on every check run): the three-tier lookup with its two `for` loops, the literal-prefix pre-filter
  `strings.Index(path, start) != 0`, the slice expressions `path[1:]`, `path[1:pos+1]` (explicit `Except Panic`)
  and the cache update — instantiated with the model's tables (`Tie.envMatch`) — equals the model's `matchM`
  (`Tie.tie_match`).  Consequences for the generated code: it cannot panic on a normalised path, and on a table
  registered from accepted definitions it selects exactly the specified route.
-/
namespace Rux
open Tie

/-- `path[1:]` / `path[1:pos+1]` of the generated lookup never go out of range on the path `QuickMatch` passes
    (the output of `formatPath`), whatever the table, the method string and the requested path -/
theorem C13_gen_match_no_panic (g : Gen.Router) (rt : RouterM) (hc : g.enableCaching = rt.opts.caching)
    (strict : Bool) (m p : Bytes) :
    ∃ res, Gen.Router.match_ g m (fmtPath strict p) envMatch rt = .ok res := by
  obtain ⟨ro, po, h, _⟩ := tie_match g rt hc m (fmtPath strict p) (C13_path_nonempty strict p)
  exact ⟨_, h⟩

/-- on an empty path the generated lookup DOES panic (slice bounds out of range) — the hypothesis of
    `C13_gen_match_no_panic` is needed, and `formatPath` is what provides it -/
theorem C13_gen_match_empty_path_panics (g : Gen.Router) (rt : RouterM) (m : Bytes)
    (hs : alistGet rt.stable m = none) (hc : g.enableCaching = false) :
    Gen.Router.match_ g m [] envMatch rt = .error .index := by
  rw [gen_match_eq_spec]
  unfold matchSpec dynSpec
  have : envMatch.stable rt m = none := by simp [envMatch, hs]
  simp [this, hc, GoRt.slice]

/-- route selection of the generated lookup on a table registered from accepted definitions: the route and the
    parameters it returns are exactly the specified selection (static beats dynamic, first-segment-keyed before
    residual, earliest registered first), for every method without '/' and every request path -/
theorem C01_gen_priority (g : Gen.Router) (o : Opts) (defs : List RouteDef) (rt : RouterM) (rs : List RouteM)
    (hreg : registerAll (RouterM.new o) defs = some (rt, rs)) (hc : g.enableCaching = o.caching)
    (m p : Bytes) (hm : (0x2F : Nat) ∉ m) :
    ∃ s' ro po, Gen.Router.match_ g m (fmtPath o.strict p) envMatch rt = .ok (s', ro, po) ∧
      (ofGo ro po).map (fun x => (x.1, x.2.1)) = specSelect rs m (fmtPath o.strict p) := by
  obtain ⟨h1, h2, h3⟩ := registerAll_build defs _ _ _ hreg
  have hco : rt.opts.caching = o.caching := by rw [h2]; rfl
  obtain ⟨ro, po, hgen, hres⟩ := tie_match g rt (by rw [hc, hco]) m (fmtPath o.strict p) (C13_path_nonempty _ p)
  refine ⟨_, ro, po, hgen, ?_⟩
  have hok : CacheOK rt := by rw [h1]; exact build_cacheOK _ rs
  have hspec := (matchM_spec rt m (fmtPath o.strict p) hm (fmtPath_head _ _) hok).1
  rw [← hres, hspec]
  exact C01_priority o defs rt rs hreg m p hm

/-! ### registration: the generated `appendRoute` builds the tables the lookup theorems are about -/

/-- register prepared routes one after the other with the GENERATED `appendRoute` -/
def genRegister (g : Gen.Router) (rt : RouterM) : List RouteM → Except Panic (RouterM × Gen.Router)
  | [] => .ok (rt, g)
  | r :: rs =>
    match Gen.Router.appendRoute g r envA rt with
    | .ok (s', g') => genRegister g' s' rs
    | .error e => .error e

theorem insertRoute_congr_tables (a b : RouterM) (r : RouteM)
    (h : a.stable = b.stable ∧ a.regular = b.regular ∧ a.irregular = b.irregular) :
    (insertRoute a r).stable = (insertRoute b r).stable ∧ (insertRoute a r).regular = (insertRoute b r).regular ∧
    (insertRoute a r).irregular = (insertRoute b r).irregular := by
  obtain ⟨h1, h2, h3⟩ := h
  unfold insertRoute
  cases r.static
  · cases r.info.first.isEmpty
    · exact ⟨h1, congrArg (List.foldl _ · _) h2, h3⟩
    · exact ⟨h1, h2, congrArg (List.foldl _ · _) h3⟩
  · exact ⟨congrArg (List.foldl _ · _) h1, h2, h3⟩

/-- the tables that the generated `appendRoute` builds from any list of prepared routes are the tables of the
    model (`List.foldl insertRoute`, i.e. `build`); it never panics on prepared routes, keeps options and cache,
    and counts one route per method -/
theorem C01_gen_tables (rs : List RouteM) (hprep : ∀ r ∈ rs, r.static = Rux.isFixedPath r.path) :
    ∀ (g : Gen.Router) (rt : RouterM), ∃ s' g', genRegister g rt rs = .ok (s', g') ∧
      s'.stable = (rs.foldl insertRoute rt).stable ∧ s'.regular = (rs.foldl insertRoute rt).regular ∧
      s'.irregular = (rs.foldl insertRoute rt).irregular ∧ s'.cache = rt.cache ∧ s'.opts = rt.opts ∧
      g'.counter = g.counter + ((rs.map (·.methods.length)).sum : Nat) := by
  induction rs with
  | nil => intro g rt; exact ⟨rt, g, rfl, rfl, rfl, rfl, rfl, rfl, by simp⟩
  | cons r t ih =>
    intro g rt
    obtain ⟨s1, g1, run1, st1, reg1, irr1, cache1, opts1, cnt1⟩ :=
      tie_appendRoute g rt r (hprep r (List.mem_cons_self))
    obtain ⟨s2, g2, run2, st2, reg2, irr2, cache2, opts2, cnt2⟩ :=
      ih (fun x hx => hprep x (List.mem_cons_of_mem _ hx)) g1 s1
    -- `s1` has the tables of `insertRoute rt r`, not its counter; the tables are all the later `insertRoute`s look at
    obtain ⟨st, reg, irr⟩ := List.foldl_rel (l := t) (r := fun a b : RouterM =>
      a.stable = b.stable ∧ a.regular = b.regular ∧ a.irregular = b.irregular) ⟨st1, reg1, irr1⟩
      fun r _ a b => insertRoute_congr_tables a b r
    refine ⟨s2, g2, ?_, st2.trans st, reg2.trans reg, irr2.trans irr, cache2.trans cache1, opts2.trans opts1, ?_⟩
    · rw [genRegister, run1]; exact run2
    · rw [cnt2, cnt1, List.map_cons, List.sum_cons, Int.natCast_add, Int.add_assoc]

/-- **registration with the generated `appendRoute` builds the model's tables**: for every list of definitions the
    model's registration accepts, registering the accepted routes one after the other with the GENERATED `appendRoute`
    never panics and yields exactly the three tables of the model router — the tables every lookup theorem (C01, C02,
    C06, C07) is about -/
theorem C01_gen_tables_registered (o : Opts) (defs : List RouteDef) (rt : RouterM) (rs : List RouteM)
    (hreg : registerAll (RouterM.new o) defs = some (rt, rs)) (g : Gen.Router) :
    ∃ s' g', genRegister g (RouterM.new o) rs = .ok (s', g') ∧
      s'.stable = rt.stable ∧ s'.regular = rt.regular ∧ s'.irregular = rt.irregular := by
  obtain ⟨hb, hprep⟩ := registerAll_spec _ (fun h => (prepare_accepts h).static) defs _ _ _ hreg
  obtain ⟨s', g', run, st, reg, irr, _⟩ := C01_gen_tables rs hprep g (RouterM.new o)
  exact ⟨s', g', run, by rw [st, hb], by rw [reg, hb], by rw [irr, hb]⟩

end Rux
