import RuxModel.Lemmas.Chain
import RuxModel.Generated.Facts
/-
  C04 — Middleware runs in global → group → route → handler onion order.

  THIS FILE: the "onion" half of C04 — how a given chain `hs` (a list of handlers, whatever it was
  assembled from) is executed by `Context.Next`.  Model: Model/Chain.lean, lemmas: Lemmas/Chain.lean.
  All theorems hold for every chain of at most `Facts.abortIndex` (= 63) handlers and every behaviour of
  every handler (0, 1, 2, … calls of Next(), before / between / after other actions).
  `Facts.abortIndex` is read from the source, the lemmas have the model's `Chain.abortIndex`; both are the numeral 63
  (`C05_limit_ok`), so `hlen` is handed to them as it is.

  Clause of the statement                                         theorem
  ----------------------------------------------------------------------------------------------------
  "the handlers run in the order [of the chain]"                  C04_enter_order (enter order = list
  "each at most once"                                               order, no gaps, no repetition; all of
                                                                    them when nobody aborts)
  "the code after Next() runs in exactly the reverse order"       C04_lifo (every behaviour: last in,
                                                                    first out)
                                                                  C04_leave_reversed (everybody calls
                                                                    Next(): leave order = reversed list)
                                                                  C04_next_wraps (what a handler that calls
                                                                    Next() looks like in the trace)
  "a middleware that returns without calling Next() is            C04_no_next_followed
    followed automatically by the rest of the chain"
  handlers calling Next() 2+ times                                C04_extra_next_noop
  all of the above at once                                        C04_onion (run = onion),
                                                                  C04_onion_step (onion in closed form)

  -- C04_chain_of_route: see Props/C12 / Reg
  --   (which chain is assembled for a request: globals at request time ++ groups outer→inner ++ route
  --    middleware ++ [main]; proved by the `reg` worker over the registration-program model.  The
  --    `chain` engine already builds its chains through the real router from global / group / route
  --    middleware + main handler, Use before or after the route, so the assembly is SAMPLED here.)
  -- C04_fallback_chain: see Props/C06 / Dispatch (404/405 run globals ++ noRoute/noAllowed).

  NOT proved here: chain assembly (above); panicking handlers (C09).
-/
namespace Rux
open Chain

/-- run = onion: within the handler limit, the trace of a request is the onion of its chain -/
theorem C04_onion (hs : List Handler) (hlen : (hs.length : Int) ≤ Facts.abortIndex) :
    ∃ idx, serve hs = .ok ⟨idx, (onion 0 hs).1⟩ :=
  ⟨_, serve_eq_onion hlen⟩

/-- the onion, one handler at a time (`onionStep`, Model/Chain.lean): handler `i` with actions `h` in
    front of the rest of the chain is
    * `h = pre ++ Next() :: post` (first Next() not preceded by an abort): enter i, `pre`, THE REST OF THE
      CHAIN, `post` (further Next() calls do nothing), leave i;
    * no such Next() and no abort: enter i, `h`, leave i, THE REST OF THE CHAIN;
    * aborted before any Next(): enter i, `h`, leave i. -/
theorem C04_onion_step (i : Nat) (h : Handler) (rest : List Handler) :
    onion i (h :: rest) = onionStep i h (onion (i + 1) rest) := onion_cons i h rest

/-- Enter order is list order: the handlers that start are exactly `0, 1, …, k-1` in this order — each at
    most once —, and when nobody aborts, `k` is the whole chain (whether or not anybody calls Next()). -/
theorem C04_enter_order (hs : List Handler) (hlen : (hs.length : Int) ≤ Facts.abortIndex)
    (st : St) (hrun : serve hs = .ok st) :
    ∃ k, k ≤ hs.length ∧ enters st.trace = List.range k ∧
      ((∀ e ∈ st.trace, e.isAbort = false) → k = hs.length) := by
  obtain ⟨k, ab, hk1, hk2, hck⟩ := serve_check hlen hrun
  obtain ⟨hab, _, hen⟩ := check_sound hck
  refine ⟨k, hk1, hen, fun hna => hk2 ?_⟩
  refine hab.trans ?_
  simp only [Bool.false_or, List.any_eq_false]
  intro e he; simp [hna e he]

/-- Last in, first out, for every behaviour: a `leave` always closes the innermost running handler, a
    handler acts only while it is the innermost running one, and nobody is left open at the end. -/
theorem C04_lifo (hs : List Handler) (hlen : (hs.length : Int) ≤ Facts.abortIndex)
    (st : St) (hrun : serve hs = .ok st) : nest [] st.trace = some [] :=
  serve_nest hlen hrun

/-- A handler that returns without calling Next() (and without aborting) is followed by the rest of the
    chain: enter i, its actions, leave i, then the rest. -/
theorem C04_no_next_followed (i : Nat) (h : Handler) (rest : List Handler)
    (hnoNext : Act.next ∉ h) (hnoAbort : ∀ a ∈ h, a.isAbort = false) :
    onion i (h :: rest) =
      ([Ev.enter i] ++ (flat i false h).1 ++ [Ev.leave i] ++ (onion (i + 1) rest).1, (onion (i + 1) rest).2) := by
  rw [onion_cons]
  simp [onionStep, splitNext_eq_none hnoNext, flat_no_abort i h false hnoAbort]

/-- A handler that calls Next() (first call not preceded by an abort) wraps the rest of the chain:
    enter i, what it does before, the rest of the chain, what it does after, leave i. -/
theorem C04_next_wraps (i : Nat) (pre post : List Act) (rest : List Handler)
    (hpre : ∀ a ∈ pre, a ≠ Act.next ∧ a.isAbort = false) :
    onion i ((pre ++ Act.next :: post) :: rest) =
      ([Ev.enter i] ++ (flat i false pre).1 ++ (onion (i + 1) rest).1 ++
        (flat i (onion (i + 1) rest).2 post).1 ++ [Ev.leave i],
       (flat i (onion (i + 1) rest).2 post).2) := by
  rw [onion_cons]
  simp [onionStep, splitNext_eq_some pre post hpre]

/-- Calling Next() two or more times is the same as calling it once: every Next() after the first
    effective one can be deleted without changing anything. -/
theorem C04_extra_next_noop (i : Nat) (pre post : List Act) (rest : List Handler)
    (hpre : ∀ a ∈ pre, a ≠ Act.next ∧ a.isAbort = false) :
    onion i ((pre ++ Act.next :: post) :: rest) =
      onion i ((pre ++ Act.next :: post.filter (fun a => !decide (a = Act.next))) :: rest) := by
  rw [C04_next_wraps i pre post rest hpre, C04_next_wraps i pre _ rest hpre, flat_filter_next]

theorem Chain.onion_all_next : ∀ (hs : List Handler) (i : Nat),
    (∀ h ∈ hs, ∀ a ∈ h, a.isAbort = false) → (∀ h ∈ hs.dropLast, Act.next ∈ h) →
    enters (onion i hs).1 = List.range' i hs.length ∧
    leaves (onion i hs).1 = (List.range' i hs.length).reverse ∧ (onion i hs).2 = false
  | [], i, _, _ => ⟨rfl, rfl, rfl⟩
  | h :: rest, i, hna, hnx => by
    obtain ⟨hna', hnaR⟩ := List.forall_mem_cons.mp hna
    by_cases hm : Act.next ∈ h
    · obtain ⟨pre, post, rfl, hpre⟩ := List.eq_append_cons_of_mem hm
      have hrest : ∀ h' ∈ rest.dropLast, Act.next ∈ h' := fun h' hh' => hnx h' <| by
        rw [List.dropLast_cons_of_ne_nil (List.ne_nil_of_mem (List.dropLast_subset rest hh'))]
        exact .tail _ hh'
      obtain ⟨he, hl, hab⟩ := onion_all_next rest (i + 1) hnaR hrest
      rw [C04_next_wraps i pre post rest fun a ha => ⟨fun e => hpre (e ▸ ha), hna' a (by simp [ha])⟩]
      simp [enters_append, leaves_append, flat_enters_leaves, he, hl, hab, enters, leaves, List.range'_succ,
        flat_no_abort i post _ fun a ha => hna' a (by simp [ha])]
    · obtain rfl : rest = [] := by
        cases rest with
        | nil => rfl
        | cons r rs => exact absurd (hnx h (by simp)) hm
      rw [C04_no_next_followed i h [] hm hna']
      simp [onion, enters_append, leaves_append, flat_enters_leaves, enters, leaves]

/-- Nobody aborts and every handler except possibly the last (the main handler) calls Next() — once or
    several times: all handlers start in list order and the code after Next() runs in exactly the reverse
    order. -/
theorem C04_leave_reversed (hs : List Handler) (hlen : (hs.length : Int) ≤ Facts.abortIndex)
    (hnoAbort : ∀ h ∈ hs, ∀ a ∈ h, a.isAbort = false) (hnext : ∀ h ∈ hs.dropLast, Act.next ∈ h)
    (st : St) (hrun : serve hs = .ok st) :
    enters st.trace = List.range hs.length ∧ leaves st.trace = (List.range hs.length).reverse := by
  obtain ⟨h1, h2, _⟩ := onion_all_next hs 0 hnoAbort hnext
  rw [serve_trace hlen hrun, List.range_eq_range']
  exact ⟨h1, h2⟩

/-! ### non-vacuity: handlers calling Next() 0, 1 and 2 times in one chain -/

example : serve [[.emit 1, .next, .emit 2, .next, .emit 3], [.emit 4], [.emit 5, .next, .emit 6], [.emit 7]] =
    .ok ⟨3, [.enter 0, .mark 0 1, .enter 1, .mark 1 4, .leave 1, .enter 2, .mark 2 5, .enter 3, .mark 3 7,
             .leave 3, .mark 2 6, .leave 2, .mark 0 2, .mark 0 3, .leave 0]⟩ := by rfl

example : leaves (onion 0 [[.next], [.next, .next], [.emit 1, .next], [.emit 2]]).1 = [3, 2, 1, 0] := by rfl

/-- the hypotheses of `C04_leave_reversed` are met by that chain -/
example : (∀ h ∈ [[Act.next], [.next, .next], [.emit 1, .next], [.emit 2]], ∀ a ∈ h, a.isAbort = false) ∧
    (∀ h ∈ [[Act.next], [.next, .next], [.emit 1, .next], [.emit 2]].dropLast, Act.next ∈ h) := by decide

end Rux
