import RuxModel.Tie.Chain
import RuxModel.Props.C05
/-
  C04 / C05 on the code GENERATED from context.go `Next`, `Abort`, `IsAborted` (Generated/Code.lean,
  regenerated by go/go2lean on every check run): the generated loop — int8 cursor arithmetic made explicit,
  the handler call a parameter, instantiated with handlers as the chain model reads them (`Tie.modelCall`) —
  started from a reset context, terminates without panic for every chain within the handler limit and leaves
  exactly the onion trace; the cursor ends on the last handler or on the abort index (it never runs past the
  chain, F11).
-/
namespace Rux
open Chain Tie

/-- the generated `Next()`, from a reset context (`index = -1`), over any chain within the limit: ends
    normally with the onion trace; `fuel = len + 1` suffices -/
theorem C05_gen_run_is_onion (hs : List Handler) (hlen : (hs.length : Int) ≤ Facts.abortIndex)
    (c0 : GCtx) (hi : c0.index = -1) (hg : c0.ghost = []) (hl : c0.handlers.length = hs.length) :
    ∃ c, Gen.Ctx.Next c0 (modelCall hs) (hs.length + 1) = .ok (some c) ∧
      c.ghost = (onion 0 hs).1 ∧
      c.index = (if (onion 0 hs).2 then Chain.abortIndex else (hs.length : Int) - 1) := by
  obtain ⟨c, hc, hrel⟩ := tie_Next_ok ⟨hi, hg, hl⟩ (C05_run_is_onion hs hlen)
  exact ⟨c, hc, hrel.trace, hrel.idx⟩

/-- C04 on the generated loop: the trace is the onion (global → group → route → handler order is the list
    order of the assembled chain, C04_chain_of_route) -/
theorem C04_gen_onion (hs : List Handler) (hlen : (hs.length : Int) ≤ Facts.abortIndex)
    (c0 : GCtx) (hi : c0.index = -1) (hg : c0.ghost = []) (hl : c0.handlers.length = hs.length) :
    ∃ c, Gen.Ctx.Next c0 (modelCall hs) (hs.length + 1) = .ok (some c) ∧ c.ghost = (onion 0 hs).1 := by
  obtain ⟨c, h1, h2, _⟩ := C05_gen_run_is_onion hs hlen c0 hi hg hl
  exact ⟨c, h1, h2⟩

/-- after the generated `Abort()`, the generated `IsAborted()` is true; on a reset context it is false -/
theorem C05_gen_isAborted (c : GCtx) :
    Gen.Ctx.IsAborted (Gen.Ctx.Abort c) = true ∧ (c.index = -1 → Gen.Ctx.IsAborted c = false) :=
  ⟨rfl, fun h => by rw [tie_IsAborted, h]; rfl⟩

/-- the generated `IsAborted()` can only become true through an abort: in a run within the limit the cursor
    is below the abort index unless the onion says "aborted" -/
theorem C05_gen_no_spurious_abort (hs : List Handler) (hlen : (hs.length : Int) ≤ Facts.abortIndex)
    (c0 : GCtx) (hi : c0.index = -1) (hg : c0.ghost = []) (hl : c0.handlers.length = hs.length)
    (hno : (onion 0 hs).2 = false) :
    ∃ c, Gen.Ctx.Next c0 (modelCall hs) (hs.length + 1) = .ok (some c) ∧ Gen.Ctx.IsAborted c = false := by
  obtain ⟨c, h1, _, h3⟩ := C05_gen_run_is_onion hs hlen c0 hi hg hl
  refine ⟨c, h1, ?_⟩
  rw [tie_IsAborted, h3, hno]
  -- the cursor ends on the last handler, and `len - 1 < abortIndex` (`Facts.abortIndex` is `Chain.abortIndex`, `C05_limit_ok`)
  exact decide_eq_false (Int.not_le.mpr (Int.sub_one_lt_of_le hlen))

/-- `AbortWithStatus(code)` as generated (c.Resp = the context's own writer): records the status (as
    `responseWriter.WriteHeader` does: only a positive code, nothing is committed yet) and aborts; it cannot panic -/
theorem C05_gen_abortWithStatus (c : GCtx) (code : Int) (ext : Int × Bool) :
    Gen.Ctx.AbortWithStatus c code [] ext =
      .ok { c with writer := Gen.RW.WriteHeader c.writer code, index := Chain.abortIndex } := rfl

/-- `AbortWithStatus(code, msg)`: `http.Error` on the own writer — status, then one write of the message line
    (which commits the header) — and aborts; it cannot panic (`msg[0]` is in range) -/
theorem C05_gen_abortWithStatus_msg (c : GCtx) (code : Int) (m : Bytes) (rest : List Bytes) (ext : Int × Bool) :
    Gen.Ctx.AbortWithStatus c code (m :: rest) ext =
      .ok { c with writer := (Gen.RW.Write (Gen.RW.WriteHeader c.writer code) (m ++ [0x0A]) ext).1,
                   index := Chain.abortIndex } := rfl

/-- after either form the generated `IsAborted()` is true -/
theorem C05_gen_abortWithStatus_aborts (c c' : GCtx) (code : Int) (msg : List Bytes) (ext : Int × Bool)
    (h : Gen.Ctx.AbortWithStatus c code msg ext = .ok c') : Gen.Ctx.IsAborted c' = true := by
  cases msg with
  | nil =>
    rw [C05_gen_abortWithStatus] at h
    cases h
    rfl
  | cons m rest =>
    rw [C05_gen_abortWithStatus_msg] at h
    cases h
    rfl

-- non-vacuity: three handlers, the middle one aborts after Next(); the generated loop evaluated
example : (Gen.Ctx.Next ({ (default : GCtx) with index := -1, handlers := [(), (), ()], ghost := [] } : GCtx)
      (modelCall [[.emit 1, .next, .emit 2], [.next, .abort], [.emit 3]]) 4).map (fun o => o.map (·.ghost)) =
    .ok (some [.enter 0, .mark 0 1, .enter 1, .enter 2, .mark 2 3, .leave 2, .abort 1, .leave 1, .mark 0 2, .leave 0]) := by
  rfl

end Rux
