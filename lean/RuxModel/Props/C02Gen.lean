import RuxModel.Tie.Pattern
import RuxModel.Lemmas.Table
/-
  C01 / C02 / C13 on the code GENERATED from the pattern compiler — parse_match.go `parseParamRoute`, utils.go
  `checkAndParseOptional`, `quotePointChar`, `getGlobalVar`, route.go `goodRegexString`, `goodRegexGroups`
  (Generated/Code.lean, regenerated by go/go2lean on every check run).

  `Tie.tie_parseParamRoute`: for every path the model's `compileRouteIn` accepts, the generated function returns,
  without panic, exactly the model's result.  So everything the model's theorems say about a compiled pattern
  (C01: which paths it matches, C02: what the parameters are, C13: what registration refuses) is said about the
  pattern text and the keys that the translated Go code produces.
-/
namespace Rux
open GoRt Tie

/-- **C02 (variable names in pattern order; group index = variable index)**: the generated `parseParamRoute` records
    exactly the model's variable names, in the order of the `{…}` of the path, and compiles exactly the model's
    regexp text; `goodRegexGroups` has checked that the text has as many capturing groups as there are names — the
    premise under which `Route.matchRegex` stores the i-th submatch under the i-th name (`C13_gen_matchRegex`). -/
theorem C02_gen_compile (route : Gen.Route) (gv : GVars) (info : RouteInfo) (hf : FreshRoute route)
    (h : compileRouteIn gv route.path = .ok info) :
    ∃ r' first, Gen.Router.parseParamRoute route findAllM replacerM gv mustCompileM numSubexpM = .ok (r', first) ∧
      r'.matches_ = info.names ∧ r'.regex = some ([0x5E] ++ info.regexStr ++ [0x24]) ∧
      countGroups info.regexStr 0 = info.names.length ∧
      r'.name = route.name ∧ r'.path = route.path ∧ r'.methods = route.methods ∧ r'.handlers = route.handlers :=
  ⟨_, _, tie_parseParamRoute route gv info hf.matches_ hf.start hf.spath hf.head h, rfl, rfl,
    compile_ok_groups gv _ info h, rfl, rfl, rfl, rfl⟩

/-- **C01 (where the route goes in the tables)**: the literal prefix (`route.start`, the pre-filter of `Route.match`),
    the first-segment key that `appendRoute` files a regular route under, and the simple path are the model's. -/
theorem C01_gen_compile_keys (route : Gen.Route) (gv : GVars) (info : RouteInfo) (hf : FreshRoute route)
    (h : compileRouteIn gv route.path = .ok info) :
    ∃ r', Gen.Router.parseParamRoute route findAllM replacerM gv mustCompileM numSubexpM = .ok (r', info.first) ∧
      r'.start = info.start ∧ r'.spath = info.spath :=
  ⟨_, tie_parseParamRoute route gv info hf.matches_ hf.start hf.spath hf.head h, rfl, rfl⟩

/-- **the compile step of registration, model and generated code side by side**: for every dynamic route the model's
    `prepare` accepts, the GENERATED `parseParamRoute`, run on a fresh route record with the same stored path, returns
    exactly what the model route carries — the variable names, the literal prefix, the simple path, the regexp text —
    and the first-segment key under which `appendRoute` files the route (`Tie.envA.parseParam`, the operation that
    `tie_appendRoute` / `C01_gen_tables` take from the model, is this function). -/
theorem C02_gen_prepare_compile (gv : GVars) (strict : Bool) (id : Nat) (name : Bytes) (ms : List Bytes) (p : Bytes)
    (nh : Bool) (route : RouteM) (h : prepare gv strict id name ms p nh = .ok route) (hd : route.static = false)
    (gr : Gen.Route) (hf : FreshRoute gr) (hp : gr.path = route.path) :
    Gen.Router.parseParamRoute gr findAllM replacerM gv mustCompileM numSubexpM =
      .ok ({ gr with matches_ := route.info.names, start := route.info.start, spath := route.info.spath,
                     regex := some ([0x5E] ++ route.info.regexStr ++ [0x24]) }, route.info.first) :=
  tie_parseParamRoute gr gv route.info hf.matches_ hf.start hf.spath hf.head (hp ▸ (prepare_accepts h).compiled hd)

/-- **C13 (registration never panics on an accepted pattern)** -/
theorem C13_gen_compile_no_panic (route : Gen.Route) (gv : GVars) (info : RouteInfo) (hf : FreshRoute route)
    (h : compileRouteIn gv route.path = .ok info) :
    ∃ res, Gen.Router.parseParamRoute route findAllM replacerM gv mustCompileM numSubexpM = .ok res :=
  ⟨_, tie_parseParamRoute route gv info hf.matches_ hf.start hf.spath hf.head h⟩

/-- **C13 (registration refuses what it cannot route correctly)**: a variable regex with a capturing group
    (`{id:(\\d+)}` — it would shift the group index off the variable index) makes the generated `parseParamRoute`
    panic, i.e. `AddRoute` refuses the route; so do optional brackets that are not all at the end of a variable-free
    path (the remaining rejections: `C13_gen_compile_rejects_vars`). -/
theorem C13_gen_compile_rejects (route : Gen.Route) (gv : GVars) :
    (compileRouteIn gv route.path = .reject .varRegex →
      ∃ e, Gen.Router.parseParamRoute route findAllM replacerM gv mustCompileM numSubexpM = .error e) ∧
    (route.path.head? = some 0x2F → findVars (route.path.length + 1) route.path = [] →
      compileRouteIn gv route.path = .reject .optional →
      ∃ e, Gen.Router.parseParamRoute route findAllM replacerM gv mustCompileM numSubexpM = .error e) :=
  ⟨tie_parseParamRoute_reject_varRegex route gv, tie_parseParamRoute_reject_optional_novars route gv⟩

/-- … and for a path WITH variables (all of them accepted by `goodRegexString`, at least one `{` left after the regexes
    were stripped): misplaced optional brackets, a regexp text `MustCompile` refuses, or a number of capturing groups
    that differs from the number of variables all make the generated `parseParamRoute` panic — the route is refused at
    registration instead of mis-routing requests later. -/
theorem C13_gen_compile_rejects_vars (route : Gen.Route) (gv : GVars) (hf : FreshRoute route)
    (hne : (findVars (route.path.length + 1) route.path).isEmpty = false)
    (hgood : ((varsOf gv route.path).any fun v => !goodRegexString v.regex) = false)
    (a : Nat) (ha : Bytes.indexByte (path1Of (varsOf gv route.path) route.path) 0x7B = some a) :
    (path3Of (path1Of (varsOf gv route.path) route.path) = none →
      ∃ e, Gen.Router.parseParamRoute route findAllM replacerM gv mustCompileM numSubexpM = .error e) ∧
    (∀ p3, path3Of (path1Of (varsOf gv route.path) route.path) = some p3 →
      (Bytes.validUTF8 (replaceAll (varRePairs (varsOf gv route.path)) (p3.length + 1) p3) = false ∨
       countGroups (replaceAll (varRePairs (varsOf gv route.path)) (p3.length + 1) p3) 0 ≠ (varsOf gv route.path).length) →
      ∃ e, Gen.Router.parseParamRoute route findAllM replacerM gv mustCompileM numSubexpM = .error e) :=
  tie_parseParamRoute_vars_rejects route gv hf.matches_ hf.start hf.spath hf.head hne hgood a ha

/-- the three helpers, as generated, are the model's -/
theorem C13_gen_compile_helpers (p : Bytes) (gv : GVars) (n v : Bytes) (r : Gen.Route) :
    (Gen.checkAndParseOptional p replacerM = .ok · ) = (fun q => checkAndParseOptional p = some q) ∧
    Gen.getGlobalVar n [0x5B, 0x5E, 0x2F, 0x5D, 0x2B] gv = globalVarIn gv n ∧
    (goodRegexString v = true ↔ Gen.Route.goodRegexString r n v = .ok ()) := by
  refine ⟨?_, tie_getGlobalVar gv n, ?_⟩
  · funext q
    rw [tie_checkAndParseOptional]
    cases checkAndParseOptional p <;> simp
  · obtain ⟨h1, h2⟩ := tie_goodRegexString r n v
    constructor
    · exact h1
    · intro hok
      cases hg : goodRegexString v with
      | true => rfl
      | false => obtain ⟨e, he⟩ := h2 hg; rw [he] at hok; cases hok

end Rux
