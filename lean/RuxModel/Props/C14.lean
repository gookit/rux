import RuxModel.Lemmas.Cache
/-
  C14 — The route cache is a bounded LRU map.

  Property theorems only (helper lemmas live in Lemmas/Cache.lean).
  All statements quantify over every capacity (0 included), every key/value type with decidable
  equality on keys, and every operation history from the empty cache.
  The router-level clause ("after a dynamic match the entry for exactly that method and path is
  present, so an immediate repeat is answered from the cache") is `C14_router_key` /
  `C14_repeat_hits` in Props/C07.lean, next to the table model it talks about.
-/
namespace Rux
variable {K V : Type} [DecidableEq K]

open Cache

/-- never more entries than the capacity, for every history from the empty cache -/
theorem C14_bounded (cap : Nat) (ops : List (CacheOp K V)) :
    ((Cache.empty cap : Cache K V).run ops).len ≤ cap := by
  have h := (run_inv ops (Cache.empty cap : Cache K V) (empty_inv cap)).1
  rwa [run_cap] at h

/-- never two entries for one key -/
theorem C14_unique_keys (cap : Nat) (ops : List (CacheOp K V)) :
    ((Cache.empty cap : Cache K V).run ops).keys.Nodup :=
  (run_inv ops (Cache.empty cap : Cache K V) (empty_inv cap)).2

/-- a key just stored is the most recent one (any cache that can hold an entry at all) -/
theorem C14_mru_set (c : Cache K V) (k : K) (v : V) (hcap : 1 ≤ c.cap) :
    (c.set k v).items.head? = some (k, v) := by
  fun_cases Cache.set c k v with
  | case2 _ items hlen =>
    -- over capacity: the back element is dropped, and the list had an element besides the new one
    exact List.head?_dropLast.trans (if_pos (Nat.lt_of_le_of_lt hcap hlen))
  | _ => rfl

/-- a key just read (hit) is the most recent one and the value returned is the stored one -/
theorem C14_mru_get (c : Cache K V) (k : K) (v : V) (h : (c.get k).1 = some v) :
    (c.get k).2.items.head? = some (k, v) := by
  revert h
  exact get_elim c k (fun _ => nofun) fun w _ h => by cases h; rfl

/-- a miss changes nothing -/
theorem C14_get_miss (c : Cache K V) (k : K) (h : (c.get k).1 = none) : (c.get k).2 = c := by
  revert h
  exact get_elim c k (fun _ _ => rfl) fun w _ => nofun

/-- inserting a NEW key into a FULL cache evicts exactly the least recently used key -/
theorem C14_evicts_lru (c : Cache K V) (k : K) (v : V)
    (hnew : k ∉ c.keys) (hfull : c.len = c.cap) :
    (c.set k v).keys = (k :: c.keys).dropLast := by
  unfold Cache.keys
  rw [set_items_evict c k v hnew (Nat.le_of_eq hfull.symm), List.map_dropLast, List.map_cons]

/-- inserting a new key into a cache that is not full evicts nothing -/
theorem C14_no_evict (c : Cache K V) (k : K) (v : V)
    (hnew : k ∉ c.keys) (hroom : c.len < c.cap) :
    (c.set k v).items = (k, v) :: c.items :=
  set_items_room c k v hnew hroom

/-- storing an existing key replaces its value, keeps every other entry and their relative order -/
theorem C14_replace (c : Cache K V) (k : K) (v : V) (hold : k ∈ c.keys) :
    (c.set k v).items = (k, v) :: rmKey k c.items ∧
    (c.set k v).keys = k :: c.keys.filter (fun x => !decide (x = k)) := by
  unfold Cache.keys
  rw [set_items_hit c k v hold, List.map_cons, keys_rmKey]
  exact ⟨rfl, rfl⟩

/-- deleting removes only that key: every other entry stays, in the same order -/
theorem C14_delete_only (c : Cache K V) (k : K) :
    (c.delete k).2.keys = c.keys.filter (fun x => !decide (x = k)) ∧
    (∀ k', k' ≠ k → (c.delete k).2.lookup k' = c.lookup k') ∧
    (c.delete k).1 = decide (k ∈ c.keys) :=
  ⟨keys_rmKey c.items k, fun _ hne => congrArg _ (find?_rmKey_ne c.items hne),
    Bool.eq_iff_iff.mpr (any_key_iff.trans decide_eq_true_iff.symm)⟩

/-- map refinement, read side: `Get` returns exactly the binding of the pure map view -/
theorem C14_get_is_lookup (c : Cache K V) (k : K) : (c.get k).1 = c.lookup k :=
  get_elim c k Eq.symm fun _ => Eq.symm

-- `hinv` is not used: `C14_mru_set` needs no invariant
set_option linter.unusedVariables false in
/-- map refinement, write side: after `Set k v` (capacity ≥ 1) the map view binds `k` to `v` -/
theorem C14_lookup_after_set (c : Cache K V) (k : K) (v : V) (hcap : 1 ≤ c.cap) (hinv : c.Inv) :
    (c.set k v).lookup k = some v :=
  lookup_of_head? (C14_mru_set c k v hcap)

/-- map refinement: a binding that survives a `Set` of another key is unchanged by it -/
theorem C14_set_other (c : Cache K V) (k k' : K) (v : V) (hne : k' ≠ k)
    (hin : k' ∈ (c.set k v).keys) : (c.set k v).lookup k' = c.lookup k' := by
  unfold Cache.lookup
  congr 1
  revert hin
  unfold Cache.keys
  fun_cases Cache.set c k v with
  | case1 => exact fun _ => (find?_cons_key_ne hne).trans (find?_rmKey_ne c.items hne)
  | case2 => exact fun hin => (find?_dropLast_of_any (any_key_iff.mpr hin)).trans (find?_cons_key_ne hne)
  | case3 => exact fun _ => find?_cons_key_ne hne

/-- reading never changes the map view (only the recency order) -/
theorem C14_get_keeps_bindings (c : Cache K V) (k k' : K) :
    (c.get k).2.lookup k' = c.lookup k' := by
  refine get_elim c k (fun _ => rfl) fun v hl => ?_
  by_cases hkk : k' = k
  · rw [hkk, hl]; exact lookup_of_head? rfl
  · exact congrArg _ ((find?_cons_key_ne hkk).trans (find?_rmKey_ne c.items hkk))

/-! ### non-vacuity: a concrete history in which hits, misses, replacement and eviction all occur -/

def demoOps : List (CacheOp Nat Nat) :=
  [.set 1 10, .set 2 20, .get 1, .set 3 30, .get 2, .set 1 11, .del 3, .len, .has 1]

example : (Cache.empty 2 : Cache Nat Nat).outputs demoOps =
    [.bool true, .bool true, .val (some 10), .bool true, .val none, .bool true, .bool true, .nat 1,
     .bool true] := by decide

example : ((Cache.empty 2 : Cache Nat Nat).run demoOps).keys = [1] := by decide

-- capacity 0: nothing is ever kept
example : ((Cache.empty 0 : Cache Nat Nat).run [.set 1 10, .set 2 20]).keys = [] := by decide

end Rux
