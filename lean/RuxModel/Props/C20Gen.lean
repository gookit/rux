import RuxModel.Generated.Code
import RuxModel.Lemmas.Gates
import RuxModel.Lemmas.Rt
/-
  C20 on the code GENERATED from pkg/handlers `HTTPBasicAuth` and `HTTPMethodOverrideHandler` (the closures these
  constructors return; Generated/Code.lean, regenerated by go/go2lean on every check run).  The context of the
  auth middleware is the list of what it does to it (`header`, `abort code`, `set`); what `Request.BasicAuth()`
  parsed out of the Authorization header is an input (`cred`, `ok = cred.2.2`; parsing is the model's
  `parseBasicAuth`, C20_parse_*).  The request of the override handler is a small record (method, `FormValue`,
  `Header.Get`, recorded original method); the wrapped handler is `ServeHTTP`'d with the resulting request.
  In `Router.WrapHTTPHandlers` (dispatch.go) wrappers are numbers, the result a term of `GoRt.HV`.  Last,
  `handlers.IgnoreFavIcon` on the same kind of context and the request path.
-/
namespace Rux
open Gates GoRt

/-! ### `HTTPBasicAuth` -/

theorem mapGet_lookup (m : List (Bytes × Bytes)) (k : Bytes) :
    GoRt.mapGet m k = match Gates.lookup k m with | some v => (v, true) | none => ([], false) := by
  unfold GoRt.mapGet
  induction m with
  | nil => rfl
  | cons a t ih => by_cases h : a.1 = k <;> simp [Gates.lookup, h, ih]

/-- what the generated auth middleware does = the model's decision:
    no credentials → challenge header + 401 abort, nothing else;
    credentials and (no account list, or the password matches) → no abort, user and password are stored;
    otherwise → 403 abort (the two values are still stored, the chain is cut by the abort) -/
theorem C20_gen_basicAuth (accounts : List (Bytes × Bytes)) (u p : Bytes) (ok : Bool) :
    Gen.HTTPBasicAuth accounts [] (u, p, ok) =
      match authDecide accounts (if ok then some (u, p) else none) with
      | .deny401 ch => [.header hWWWAuth ch, .abort 401]
      | .deny403 => [.abort 403, .set kUsername u, .set kPassword p]
      | .pass => [.set kUsername u, .set kPassword p] := by
  unfold Gen.HTTPBasicAuth
  cases ok
  · rfl
  · simp only [Id.run, pure, Bool.not_true, Bool.false_eq_true, if_false, if_true, mapGet_lookup, List.nil_append,
      authDecide_some, kUsername, kPassword]
    cases accounts with
    | nil => rfl
    | cons a t =>
      simp only [len_pos_cons, if_true, reduceCtorEq, false_or]
      cases Gates.lookup u (a :: t) with
      | none => simp
      | some v => by_cases hv : v = p <;> simp [hv]

/-- the gate as an "if and only if": the generated middleware aborts exactly when the model denies -/
theorem C20_gen_basicAuth_gate (accounts : List (Bytes × Bytes)) (u p : Bytes) (ok : Bool) :
    (∃ code, GEv.abort code ∈ Gen.HTTPBasicAuth accounts [] (u, p, ok)) ↔
      authDecide accounts (if ok then some (u, p) else none) ≠ .pass := by
  rw [C20_gen_basicAuth]
  cases authDecide accounts (if ok then some (u, p) else none) <;> simp

/-! ### `HTTPMethodOverrideHandler` -/

-- `HTTPMethodOverrideHeader = "X-HTTP-Method-Override"` and `HTTPMethodOverrideFormKey = "_method"` (pkg/handlers) as bytes
def hdrOverride : Bytes := [0x58, 0x2D, 0x48, 0x54, 0x54, 0x50, 0x2D, 0x4D, 0x65, 0x74, 0x68, 0x6F, 0x64, 0x2D, 0x4F, 0x76, 0x65, 0x72, 0x72, 0x69, 0x64, 0x65]
def keyMethod : Bytes := [0x5F, 0x6D, 0x65, 0x74, 0x68, 0x6F, 0x64]

theorem override_eq (r : OReq) :
    Gen.HTTPMethodOverrideHandler () () r =
      some { r with
        method := (methodOverride r.method (r.formValue keyMethod) (r.header hdrOverride)).1
        original := (methodOverride r.method (r.formValue keyMethod) (r.header hdrOverride)).2.orElse
          fun _ => r.original } := by
  unfold Gen.HTTPMethodOverrideHandler methodOverride Gates.POST Gates.PUT Gates.PATCH Gates.DELETE keyMethod hdrOverride
  simp only [Id.run, pure, beq_iff_eq, bne_iff_ne, Bool.or_eq_true, or_assoc]
  -- with the three values named, both sides are the same two tests
  generalize r.formValue _ = f
  generalize r.header _ = h
  generalize (if (if f = [] then h else f) ≠ [] then _ else _) = om
  split
  · split <;> rfl
  · rfl

/-- the generated override handler hands the wrapped handler a request whose method and recorded original
    method are the model's `methodOverride` of (method, `_method` form value, override header); nothing else of
    the request changes -/
theorem C20_gen_override (r : OReq) :
    ∃ r', Gen.HTTPMethodOverrideHandler () () r = some r' ∧
      r'.method = (methodOverride r.method (r.formValue keyMethod) (r.header hdrOverride)).1 ∧
      r'.original = ((methodOverride r.method (r.formValue keyMethod) (r.header hdrOverride)).2).orElse (fun _ => r.original) ∧
      r'.formValue = r.formValue ∧ r'.header = r.header :=
  ⟨_, override_eq r, rfl, rfl, rfl, rfl⟩

/-- only POST requests are rewritten, and only to PUT, PATCH or DELETE, recording POST as the original method -/
theorem C20_gen_override_only (r : OReq) :
    ∃ r', Gen.HTTPMethodOverrideHandler () () r = some r' ∧
      (r'.method = r.method ∧ r'.original = r.original ∨
       r.method = Gates.POST ∧ (r'.method = Gates.PUT ∨ r'.method = Gates.PATCH ∨ r'.method = Gates.DELETE) ∧
         r'.original = some Gates.POST) := by
  refine ⟨_, override_eq r, ?_⟩
  simp only [methodOverride_eq]
  generalize Bytes.toUpper _ = om
  split
  next h => exact .inr ⟨h.1, h.2, rfl⟩
  next => exact .inl ⟨rfl, rfl⟩

/-! ### `WrapHTTPHandlers` (dispatch.go as generated): the first listed wrapper is outermost -/

/-- what the loop has built after its first `k` rounds (`k ≥ 1`): the last `k` wrappers around the router -/
def wrappedAfter (pre : List Nat) (k : Nat) : GoRt.HV :=
  if k = 0 then .nil else (pre.drop (pre.length - k)).foldr GoRt.HV.wrap .router

/-- the loop body of `Gen.Router.WrapHTTPHandlers` -/
def wrapBody (pre : List Nat) (i_it : Int × Int) (r : GoRt.HV) : Except Panic (ForInStep GoRt.HV) :=
  match GoRt.listAt pre ((((pre.length : Nat) : Int) - i_it.1) - 1) with
  | .error e => .error e
  | .ok v => .ok (.yield (GoRt.HV.wrap v (if (i_it.1 == 0) = true then GoRt.HV.router else r)))

theorem wrapBody_round (pre : List Nat) (k : Nat) (hk : k < pre.length) :
    wrapBody pre ((k : Int), (default : Int)) (wrappedAfter pre k) = .ok (.yield (wrappedAfter pre (k + 1))) := by
  have hidx : ((pre.length : Int) - (k : Int) - 1) = ((pre.length - (k + 1) : Nat) : Int) := by omega
  simp only [wrapBody, hidx, GoRt.listAt_nat pre (Nat.sub_lt_self k.succ_pos hk), wrappedAfter, Nat.succ_ne_zero,
    if_false, drop_length_sub_succ hk, List.foldr_cons]
  cases k with
  | zero => simp
  | succ k => rfl

/-- not `Gates.wrap_loop`, which is about the loop of the model's `wrapHTTPHandlers` -/
theorem wrap_loop (pre : List Nat) : ∀ (m k : Nat), k + m = pre.length →
    forIn (GoRt.enumFrom (k : Int) (List.replicate m (default : Int))) (wrappedAfter pre k) (wrapBody pre) =
      .ok (wrappedAfter pre (k + m)) := by
  intro m k hk
  have := forIn_enumFrom (List.replicate m (default : Int)) (wrapBody pre) k (fun n => wrappedAfter pre (k + n))
    fun n hn => by
      rw [List.getElem_replicate, ← Int.natCast_add]
      exact wrapBody_round pre (k + n) (by rw [List.length_replicate] at hn; omega)
  rwa [List.length_replicate] at this

/-- **C20 (`WrapHTTPHandlers` composes std wrappers so that the first listed wrapper is outermost)**: it never panics;
    with no wrapper the result is nil (as in Go), otherwise `w1(w2(…wn(router)…))` for the list `w1 … wn` -/
theorem C20_gen_wrap_order (pre : List Nat) :
    Gen.Router.WrapHTTPHandlers pre =
      .ok (if pre = [] then GoRt.HV.nil else pre.foldr GoRt.HV.wrap GoRt.HV.router) := by
  unfold Gen.Router.WrapHTTPHandlers
  simp only [bind, Except.bind, pure, Except.pure]
  -- name the loop body of the generated code, so that `wrap_loop` applies
  rw [show (fun (i_it : Int × Int) (r : GoRt.HV) => _) = wrapBody pre from funext fun a => funext fun b => by
    unfold wrapBody
    split <;> cases GoRt.listAt pre ((((pre.length : Nat) : Int) - a.1) - 1) <;> rfl]
  -- `erw`: the loop here is `enum (replicate (↑n).toNat _)` from `default`, which is `wrap_loop`'s only after unfolding
  erw [wrap_loop pre pre.length 0 (Nat.zero_add _)]
  unfold wrappedAfter
  cases pre with
  | nil => rfl
  | cons a t => simp

example : Gen.Router.WrapHTTPHandlers [1, 2, 3] = .ok (.wrap 1 (.wrap 2 (.wrap 3 .router))) := rfl

/-! ### `IgnoreFavIcon` -/

def favIconPath : Bytes := [0x2F, 0x66, 0x61, 0x76, 0x69, 0x63, 0x6F, 0x6E, 0x2E, 0x69, 0x63, 0x6F]
#guard favIconPath = Bytes.ofString "/favicon.ico"

/-- **C20 (gates leave other requests alone)**: `handlers.IgnoreFavIcon` as generated aborts the chain with 204 for the
    path `/favicon.ico` and for no other path — every other request passes through untouched (nothing is recorded,
    nothing aborted), so a gate mounted behind it sees exactly the requests it would see without it. -/
theorem C20_gen_ignoreFavIcon (c : List GoRt.GEv) (p : Bytes) :
    Gen.IgnoreFavIcon c p = (if p = favIconPath then c ++ [GoRt.GEv.abort 204] else c) := by
  unfold Gen.IgnoreFavIcon favIconPath
  simp only [Id.run, pure, beq_iff_eq]

end Rux
