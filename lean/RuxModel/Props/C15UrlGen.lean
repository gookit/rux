import RuxModel.Tie.URL
/-
  route.go `Route.ToURL` (what `BuildURL(name, args…)` calls on the named route) on the code GENERATED from it
  (Generated/Code.lean, regenerated by go/go2lean on every check run), composed with the generated
  `BuildRequestURL.Build` and its tie to the model's `buildPath` (Tie/URL.lean).

  An argument is `GoRt.UArg Gen.BRU`: a `*BuildRequestURL`, a map `M`, or any other value; `strOf` is `goutil.String`.
  That the caller's builder object is MUTATED by `Build` (pointer semantics; known finding K2 is about reusing one
  builder) is outside a value translation: the theorems speak about the URL returned.
-/
namespace Rux
open Tie GoRt

abbrev UA := UArg Gen.BRU

def oddMsg : Bytes := [0x62, 0x75, 0x69, 0x6C, 0x64, 0x41, 0x72, 0x67, 0x73, 0x20, 0x6F, 0x64, 0x64, 0x20, 0x61, 0x72, 0x67, 0x75, 0x6D, 0x65, 0x6E, 0x74, 0x20, 0x63, 0x6F, 0x75, 0x6E, 0x74]
#guard oddMsg = Bytes.ofString "buildArgs odd argument count"

/-- the key/value arguments folded into the parameter map: later pairs overwrite earlier ones with the same key -/
def pairsOf (strOf : UA → Bytes) : List UA → KV → KV
  | a :: b :: rest, acc => pairsOf strOf rest (kvSet acc (strOf a) (strOf b))
  | _, acc => acc

/-- `b.Path(p)` -/
def withPath (b : Gen.BRU) (p : Bytes) : Gen.BRU := { b with path := p }

theorem path_eq (b : Gen.BRU) (p : Bytes) : Gen.BRU.Path b p = (withPath b p, withPath b p) := rfl

def urlOf (x : Except Panic (Gen.BRU × Gen.URL)) : Except Panic (Option Gen.URL) :=
  match x with
  | .error e => .error e
  | .ok v => .ok (some v.2)

/-- what `ToURL` hands to `Build` -/
def toURLCall (r : Gen.Route) (b : Gen.BRU) (params : KV) (ordKV : KV → KV) (encode : KV → Bytes) : Except Panic (Option Gen.URL) :=
  urlOf (Gen.BRU.Build (withPath b r.path) [params] ordKV encode findAllM replacerM)

theorem urlOf_bind (x : Except Panic (Gen.BRU × Gen.URL)) : (x >>= fun t => pure (some t.2)) = urlOf x := by
  cases x <;> rfl

/-- no arguments: a fresh builder with the route's path, `Build()` without parameters -/
theorem C15_gen_toURL_noargs (r : Gen.Route) (ordKV : KV → KV) (encode : KV → Bytes) (strOf : UA → Bytes) (fuel : Nat) :
    Gen.Route.ToURL r [] ordKV encode findAllM replacerM strOf fuel =
      urlOf (Gen.BRU.Build (withPath Gen.NewBRU r.path) [] ordKV encode findAllM replacerM) := by
  unfold Gen.Route.ToURL
  exact urlOf_bind _

/-- ONE argument: a builder is used as it is (with the route's path), a map becomes the parameters of a fresh builder,
    anything else is refused with the documented panic -/
theorem C15_gen_toURL_one (r : Gen.Route) (a : UA) (ordKV : KV → KV) (encode : KV → Bytes) (strOf : UA → Bytes) (fuel : Nat) :
    Gen.Route.ToURL r [a] ordKV encode findAllM replacerM strOf fuel =
      match a with
      | .builder b => toURLCall r b [] ordKV encode
      | .m kv => toURLCall r Gen.NewBRU kv ordKV encode
      | .other _ => .error (.msg oddMsg) := by
  cases a with
  | builder b => exact urlOf_bind _
  | m kv => exact urlOf_bind _
  | other id => rfl

theorem listAt_length_append {α : Type} (done : List α) (a : α) (rest : List α) :
    GoRt.listAt (done ++ a :: rest) (done.length : Int) = .ok a := by
  rw [listAt_nat _ (by simp), List.getElem_append_right (Nat.le_refl _)]
  simp

/-- the argument loop: from an even position, with enough fuel, it stores every remaining key/value pair in order -/
theorem toURL_loop (r : Gen.Route) (args : List UA) (ordKV : KV → KV) (encode : KV → Bytes) (strOf : UA → Bytes)
    (U : Gen.BRU) (p : Bytes) (v : Int) :
    ∀ (fuel : Nat) (rest : List UA) (done : List UA) (wp : KV), args = done ++ rest → rest.length % 2 = 0 → rest.length / 2 < fuel →
      Gen.Route.ToURL.loop1 r args ordKV encode findAllM replacerM strOf fuel (U, p, v, wp, (done.length : Int)) =
        .ok (some (U, p, v, pairsOf strOf rest wp, (args.length : Int))) := by
  intro fuel
  induction fuel with
  | zero => intro rest done wp _ _ h; cases h
  | succ f ih =>
    intro rest done wp hargs hev hf
    subst hargs
    rw [Gen.Route.ToURL.loop1]
    rcases rest with _ | ⟨a, _ | ⟨b, rest'⟩⟩
    · simp [pairsOf, pure, Except.pure]
    · cases hev
    · have hB : GoRt.listAt (done ++ a :: b :: rest') ((done.length : Int) + 1) = .ok b := by
        simpa using listAt_length_append (done ++ [a]) b rest'
      have hrec := ih rest' (done ++ [a, b]) (kvSet wp (strOf a) (strOf b)) (List.append_assoc done [a, b] rest').symm
        -- `hev`, `hf` speak of `rest'.length + 2`; `omega` after `List.length_cons` proves both too, and doubles the cost of the lemma
        ((Nat.add_mod_right _ 2).symm.trans hev)
        (Nat.lt_of_succ_lt_succ (Nat.lt_of_le_of_lt (Nat.le_of_eq (Nat.add_div_right _ Nat.two_pos).symm) hf))
      rw [List.length_append] at hrec
      have hlt : done.length < (done ++ a :: b :: rest').length := by
        rw [List.length_append]; exact Nat.lt_add_of_pos_right (Nat.succ_pos _)
      rw [if_pos (decide_eq_true (Int.ofNat_lt.mpr hlt))]
      simp only [bind, Except.bind, hB, listAt_length_append]
      exact hrec

/-- TWO OR MORE arguments: an odd count is refused with the documented panic; an even count is read as key/value pairs
    (keys and values through `goutil.String`, a later pair overwrites an earlier one with the same key) and handed to
    `Build` of a fresh builder with the route's path -/
theorem C15_gen_toURL_pairs (r : Gen.Route) (a b : UA) (rest : List UA) (ordKV : KV → KV) (encode : KV → Bytes)
    (strOf : UA → Bytes) (fuel : Nat) (hf : (a :: b :: rest).length / 2 < fuel) :
    Gen.Route.ToURL r (a :: b :: rest) ordKV encode findAllM replacerM strOf fuel =
      if (a :: b :: rest).length % 2 = 1 then .error (.msg oddMsg)
      else toURLCall r Gen.NewBRU (pairsOf strOf (a :: b :: rest) []) ordKV encode := by
  unfold Gen.Route.ToURL toURLCall
  have h1 : ((((a :: b :: rest).length : Nat) : Int) == 0) = false := rfl
  have h2 : ((((a :: b :: rest).length : Nat) : Int) == 1) = false := rfl
  have htm : Int.tmod (((a :: b :: rest).length : Nat) : Int) 2 = (((a :: b :: rest).length % 2 : Nat) : Int) :=
    (Int.ofNat_tmod _ 2).symm
  simp only [h1, h2, Bool.false_eq_true, if_false, htm]
  rcases Nat.mod_two_eq_zero_or_one (a :: b :: rest).length with hev | hodd
  · have hl := toURL_loop r (a :: b :: rest) ordKV encode strOf default r.path ((a :: b :: rest).length : Nat)
      fuel (a :: b :: rest) [] [] rfl hev hf
    rw [show (([] : List UA).length : Int) = 0 from rfl] at hl
    rw [hev, if_neg (by decide), if_neg (by decide), hl]
    exact urlOf_bind _
  · rw [hodd]
    rfl

/-- **C15 (the URL that `BuildURL` returns)**, map form, through the tie of `Build`: it never panics, its path is the
    model's `buildPath` of the route's path under the path arguments (keys with a brace), and the other arguments are
    the query — for every visiting order of the map -/
theorem C15_gen_toURL_map_model (r : Gen.Route) (kv : KV) (ordKV : KV → KV) (encode : KV → Bytes) (strOf : UA → Bytes) (fuel : Nat) :
    ∃ u, Gen.Route.ToURL r [.m kv] ordKV encode findAllM replacerM strOf fuel = .ok (some u) ∧
      u.path = buildPath r.path (splitArgs (ordKV kv)).1 ∧ u.rawQuery = encode (splitArgs (ordKV kv)).2 := by
  rw [C15_gen_toURL_one]
  obtain ⟨b', hb, hq, -⟩ := tie_Build (withPath Gen.NewBRU r.path) kv ordKV encode
  simp only [toURLCall, hb]
  -- a fresh builder has no parameters or queries
  exact ⟨_, rfl, rfl, congrArg encode hq⟩

/-- **C15 (`GetRoute(name)` returns the route most recently registered under that name)** on the generated code: the name
    index is the list of (name, route) pairs, newest first, that `NamedTo` / registration write (`C15_gen_namedTo`);
    `GetRoute` is the first pair with that name -/
theorem C15_gen_getRoute (name : Bytes) (idx : List (Bytes × Gen.Route)) :
    Gen.Router.GetRoute name idx = (idx.find? (fun x => x.1 == name)).map (·.2) := rfl

/-- `BuildURL(name, args…)`: an unknown name panics; otherwise it is `ToURL(args…)` of the route `GetRoute(name)`
    returns; `BuildRequestURL` is the same function -/
theorem C15_gen_buildURL (name : Bytes) (args : List UA) (idx : List (Bytes × Gen.Route)) (ordKV : KV → KV)
    (encode : KV → Bytes) (strOf : UA → Bytes) (fuel : Nat) :
    Gen.Router.BuildURL name args idx ordKV encode findAllM replacerM strOf fuel =
      (match Gen.Router.GetRoute name idx with
       | none => .error .value
       | some rt => Gen.Route.ToURL rt args ordKV encode findAllM replacerM strOf fuel) ∧
    Gen.Router.BuildRequestURL name args idx ordKV encode findAllM replacerM strOf fuel =
      Gen.Router.BuildURL name args idx ordKV encode findAllM replacerM strOf fuel := by
  constructor
  · unfold Gen.Router.BuildURL
    cases h : Gen.Router.GetRoute name idx with
    | none => rfl
    | some rt =>
      simp only [Option.isNone_some, Bool.false_eq_true, if_false, bind]
  · rfl

/-- **C15 end to end on generated code** (map form): for a registered name, `BuildURL(name, M)` never panics and yields
    the URL whose path is the model's `buildPath` of the named route's path under the path arguments of the map, its
    query the other arguments — whatever order Go's `range` visits the map in -/
theorem C15_gen_buildURL_map (name : Bytes) (kv : KV) (idx : List (Bytes × Gen.Route)) (rt : Gen.Route) (ordKV : KV → KV)
    (encode : KV → Bytes) (strOf : UA → Bytes) (fuel : Nat) (h : Gen.Router.GetRoute name idx = some rt) :
    ∃ u, Gen.Router.BuildURL name [.m kv] idx ordKV encode findAllM replacerM strOf fuel = .ok (some u) ∧
      u.path = buildPath rt.path (splitArgs (ordKV kv)).1 ∧ u.rawQuery = encode (splitArgs (ordKV kv)).2 := by
  rw [(C15_gen_buildURL name [.m kv] idx ordKV encode strOf fuel).1, h]
  exact C15_gen_toURL_map_model rt kv ordKV encode strOf fuel

-- non-vacuity: key/value pairs for /u/{id}: the variable is substituted, the other pair is the query
example : pairsOf (fun a => match a with | .other n => [n] | _ => []) [.other 1, .other 2, .other 1, .other 3] [] = [([1], [3])] := by decide

end Rux
