import RuxModel.Tie.URL
import RuxModel.Props.C15
/-
  C15 on the code GENERATED from extends.go `BuildRequestURL.Build` (Generated/Code.lean, regenerated by go/go2lean on
  every check run).  `Tie.tie_Build`: the generated function, its argument map `withParams[0]` visited in ANY order `ordKV`,
  never panics and returns the model's `buildPath` / `splitArgs`.  Parameters instantiated with the model's functions:
  `varRegex.FindAllString` := `findVars`, `strings.NewReplacer(...).Replace` := `replaceAll` (both compared with the Go
  library by the `url` engine); `url.Values.Encode` stays arbitrary.
-/
namespace Rux
open GoRt Tie

/-- `NewBuildRequestURL().Path(p)` -/
def Tie.newBuilder (p : Bytes) : Gen.BRU := { queries := [], params := [], path := p, scheme := [], host := [], user := none }

/-- **`NewBuildRequestURL().Path(p).Build(args)` as generated** (what `Route.ToURL` / `Router.BuildURL` call): no
    panic; the path of the URL is the route path with every `{name}` / `{name:regex}` replaced, in one pass, by the
    argument stored under `{name}`; the arguments without a brace in the key — and only they — are the query. -/
theorem C15_gen_build (p : Bytes) (args : KV) (ordKV : KV → KV) (encode : KV → Bytes) :
    ∃ b', Gen.BRU.Build (newBuilder p) [args] ordKV encode findAllM replacerM =
        .ok (b', { scheme := [], user := none, host := [], path := buildPath p (splitArgs (ordKV args)).1,
                   rawQuery := encode (splitArgs (ordKV args)).2 }) := by
  obtain ⟨b', h, hq, hs, hh, hu⟩ := tie_Build (newBuilder p) args ordKV encode
  refine ⟨b', ?_⟩
  rw [h]
  simp [builtURL, hq, hs, hh, hu, newBuilder]

/-- the query of the built URL: exactly the arguments whose key has no brace -/
theorem C15_gen_query (args : KV) (ordKV : KV → KV) (hperm : (ordKV args).Perm args) (kv : Bytes × Bytes) :
    kv ∈ (splitArgs (ordKV args)).2 ↔ kv ∈ args ∧ isParamKey kv.1 = false := by
  rw [(C15_query (ordKV args) kv).1, hperm.mem_iff]

/-- **F15 on the generated code: the order in which Go visits the argument map does not matter** — for a map (distinct
    keys) any two visiting orders build the same path. -/
theorem C15_gen_order_irrelevant (p : Bytes) (args : KV) (ord1 ord2 : KV → KV) (encode : KV → Bytes)
    (h1 : (ord1 args).Perm args) (h2 : (ord2 args).Perm args) (hn : (args.map (·.1)).Nodup) :
    ∃ b1 b2 u1 u2, Gen.BRU.Build (newBuilder p) [args] ord1 encode findAllM replacerM = .ok (b1, u1) ∧
      Gen.BRU.Build (newBuilder p) [args] ord2 encode findAllM replacerM = .ok (b2, u2) ∧ u1.path = u2.path := by
  obtain ⟨b1, e1⟩ := C15_gen_build p args ord1 encode
  obtain ⟨b2, e2⟩ := C15_gen_build p args ord2 encode
  refine ⟨b1, b2, _, _, e1, e2, ?_⟩
  simp only
  have hp : ((splitArgs (ord1 args)).1).Perm (splitArgs (ord2 args)).1 := (h1.trans h2.symm).filter _
  have hnd : (((splitArgs (ord1 args)).1).map (·.1)).Nodup :=
    (List.filter_sublist.map _).nodup ((h1.map _).nodup_iff.mpr hn)
  exact C15_map_order_irrelevant p _ _ hp hnd

/-- the round trip on the generated code: for a route without optional parts whose pattern has the segments `segs`
    and values in the languages of the variables' regexes, IF the path the generated `Build` returns is the pattern with
    the values put in (`instantiate`), the matcher accepts it and — where the decomposition is unique — reports exactly
    those values (`C15_roundtrip_match` / `_unique` are about that path). -/
theorem C15_gen_roundtrip (p : Bytes) (args : KV) (ordKV : KV → KV) (encode : KV → Bytes)
    (segs : List Seg) (vs : List Bytes) (hv : ValuesOK segs vs)
    (hinst : buildPath p (splitArgs (ordKV args)).1 = (substSegs segs vs).1) :
    ∃ b' u, Gen.BRU.Build (newBuilder p) [args] ordKV encode findAllM replacerM = .ok (b', u) ∧
      ∃ caps, matchPat [segs] u.path = some caps := by
  obtain ⟨b', e⟩ := C15_gen_build p args ordKV encode
  refine ⟨b', _, e, ?_⟩
  simp only [hinst]
  exact C15_roundtrip_match segs vs hv


/-! ### the naming API (route.go `NewRoute`, `NewNamedRoute`, `Route.NamedTo`), as generated

  The router's name index (`namedRoutes`) is an association list whose FIRST binding of a name is the live one (a Go map
  assignment overwrites). -/

/-- `GetRoute(name)` on the index -/
def Tie.getNamed (idx : List (Bytes × Gen.Route)) (name : Bytes) : Option Gen.Route :=
  (idx.find? fun kv => kv.1 == name).map (·.2)

/-- the constructors: the name is trimmed (`NewRoute` has none), the path goes through `simpleFmtPath`, the methods are
    normalised with GET as the default -/
theorem C15_gen_constructors (name path : Bytes) (h : Option Nat) (methods : List Bytes) :
    (Gen.NewNamedRoute name path h methods).name = Bytes.trimSpace name ∧
    (Gen.NewNamedRoute name path h methods).path = Gen.simpleFmtPath path ∧
    (Gen.NewNamedRoute name path h methods).methods = Gen.formatMethodsWithDefault methods [0x47, 0x45, 0x54] ∧
    (Gen.NewRoute path h methods).name = [] ∧
    (Gen.NewRoute path h methods).path = Gen.simpleFmtPath path ∧
    (Gen.NewRoute path h methods).methods = Gen.formatMethodsWithDefault methods [0x47, 0x45, 0x54] := by
  refine ⟨?_, ?_, ?_, ?_, ?_, ?_⟩ <;> rfl

/-- **`NamedTo(name, router)`**: a name that is empty after trimming changes nothing; otherwise the route gets the
    trimmed name and `GetRoute` of that name now returns THIS route (the latest registration wins) while every other
    name still returns what it returned before -/
theorem C15_gen_namedTo (r : Gen.Route) (name : Bytes) (idx : List (Bytes × Gen.Route)) :
    (Bytes.trimSpace name = [] → Gen.Route.NamedTo r name () idx = (idx, r)) ∧
    (Bytes.trimSpace name ≠ [] →
      (Gen.Route.NamedTo r name () idx).2 = { r with name := Bytes.trimSpace name } ∧
      getNamed (Gen.Route.NamedTo r name () idx).1 (Bytes.trimSpace name) = some { r with name := Bytes.trimSpace name } ∧
      ∀ other, other ≠ Bytes.trimSpace name → getNamed (Gen.Route.NamedTo r name () idx).1 other = getNamed idx other) := by
  unfold Gen.Route.NamedTo
  constructor
  · intro he; simp [he]
  · intro hne
    simp only [bne_iff_ne.mpr hne, if_true]
    refine ⟨by simp, ?_, ?_⟩
    · simp [getNamed]
    · intro other ho
      simp [getNamed, beq_eq_false_iff_ne.mpr (Ne.symm ho)]

/-- the generated index and the model's name index (`nameRoute` / `getRoute`, Model/URLBuild.lean) answer every lookup
    alike, registration by registration (`ids` = which model route id a generated route stands for) -/
theorem C15_gen_namedTo_model (r : Gen.Route) (name : Bytes) (idx : List (Bytes × Gen.Route)) (ns : Names)
    (ids : Gen.Route → Nat) (id : Nat) (hid : ids { r with name := Bytes.trimSpace name } = id)
    (hrel : ∀ k, (getNamed idx k).map ids = getRoute ns k) :
    ∀ k, (getNamed (Gen.Route.NamedTo r name () idx).1 k).map ids = getRoute (nameRoute ns name id) k := by
  intro k
  obtain ⟨h0, h1⟩ := C15_gen_namedTo r name idx
  rw [getRoute_nameRoute]
  by_cases he : Bytes.trimSpace name = []
  · rw [h0 he, he]
    exact hrel k
  · obtain ⟨_, h2, h3⟩ := h1 he
    rw [if_neg (mt List.isEmpty_iff.mp he)]
    by_cases hk : Bytes.trimSpace name = k
    · rw [if_pos hk, ← hk, h2, ← hid]
      rfl
    · rw [if_neg hk, h3 k (Ne.symm hk), hrel k]

/-- the getters of a route return its fields (`MethodString(sep)` joins the methods) -/
theorem C15_gen_route_getters (r : Gen.Route) (sep : Bytes) :
    Gen.Route.Name r = r.name ∧ Gen.Route.Path r = r.path ∧ Gen.Route.Methods r = r.methods ∧
    Gen.Route.Handler r = r.handler ∧ Gen.Route.Handlers r = r.handlers ∧ Gen.Route.MethodString r sep = Bytes.join sep r.methods :=
  ⟨rfl, rfl, rfl, rfl, rfl, rfl⟩

end Rux
