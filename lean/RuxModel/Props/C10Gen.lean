import RuxModel.Generated.Code
import RuxModel.Generated.Facts
/-
  C10 on the code GENERATED from context.go `Init` / `Reset` and response_wirter.go `reset` (Generated/Code.lean,
  regenerated by go/go2lean on every check run): whatever a pooled context contained, after `Init(w, req)` every
  field of the Go struct except `router` has its pristine value.  (`router` is set once when the pool creates the
  context and never written on the request path — Facts.requestPathWrites; `ghost` is not a Go field.)
-/
namespace Rux

variable {γ : Type}

/-- the state `Init` leaves behind, spelled out: cursor before the first handler, fresh writer (status 0,
    nothing written, a new underlying writer), the given request, no params, no data, no errors, no handlers,
    `Resp` pointing at the context's own writer -/
theorem C10_gen_init_pristine (c : Gen.Ctx γ) (w : Unit) (r : Option Nat) :
    Gen.Ctx.Init c w r =
      { index := -1, writer := { status := 0, length := -1, log := [] }, req := r, params := none, data := none, errors := [], handlers := [], respOwn := true, ghost := c.ghost } := rfl

/-- two pooled contexts with arbitrary leftovers are indistinguishable after `Init` -/
theorem C10_gen_init_forgets (c c' : Gen.Ctx γ) (w : Unit) (r : Option Nat) (hg : c.ghost = c'.ghost) :
    Gen.Ctx.Init c w r = Gen.Ctx.Init c' w r := by
  rw [C10_gen_init_pristine, C10_gen_init_pristine, hg]

/-- `HandleContext` resets with `Reset()` only: everything but the writer and the request is pristine -/
theorem C10_gen_reset (c : Gen.Ctx γ) :
    Gen.Ctx.Reset c = { c with index := -1, params := none, data := none, errors := [], handlers := [], respOwn := true } := rfl

/-- the generated record models every field of the Go struct except `router` (if a field is added to
    `Context`, this stops checking and the new field has to be looked at) -/
theorem C10_gen_fields_covered :
    Facts.contextFields = ["Req", "Resp", "writer", "Params", "Errors", "index", "router", "data", "handlers"] ∧
    Facts.writerFields = ["Writer", "status", "length"] := ⟨rfl, rfl⟩

/-- `ServeHTTP` as generated: whatever context the pool hands out, the dispatcher gets the pristine one (`Init`);
    when the dispatcher returns normally the context goes back to the pool, when it ends with a panic the panic
    propagates and the context is NOT put back -/
theorem C10_gen_serveHTTP {σ : Type} (g : Gen.Router) (req : Option Nat) (env : GoRt.PEnv σ (Gen.Ctx γ)) (s : σ) :
    Gen.Router.ServeHTTP g () req env s =
      match env.handle (env.poolGet s).1 (Gen.Ctx.Init (env.poolGet s).2 () req) with
      | (s2, _, some p) => (s2, some p)
      | (s2, c2, none) => (env.poolPut s2 c2, none) := by
  unfold Gen.Router.ServeHTTP
  simp only [Id.run, pure]
  rcases env.handle (env.poolGet s).1 (Gen.Ctx.Init (env.poolGet s).2 () req) with ⟨s2, c2, _ | p⟩ <;> rfl

/-- the same for `HandleContext`, which resets with `Reset()` (writer and request are the caller's) -/
theorem C10_gen_handleContext {σ : Type} (g : Gen.Router) (c : Gen.Ctx γ) (env : GoRt.PEnv σ (Gen.Ctx γ)) (s : σ) :
    Gen.Router.HandleContext g c env s =
      match env.handle s (Gen.Ctx.Reset c) with
      | (s2, _, some p) => (s2, some p)
      | (s2, c2, none) => (env.poolPut s2 c2, none) := by
  unfold Gen.Router.HandleContext
  simp only [Id.run, pure]
  rcases env.handle s (Gen.Ctx.Reset c) with ⟨s2, c2, _ | p⟩ <;> rfl

/-- the context the dispatcher works on in `ServeHTTP` does not depend on what the pooled context contained -/
theorem C10_gen_serve_forgets {σ : Type} (g : Gen.Router) (req : Option Nat) (s1 : σ) (c c' : Gen.Ctx γ)
    (handle : σ → Gen.Ctx γ → σ × Gen.Ctx γ × Option Panic) (put : σ → Gen.Ctx γ → σ) (hg : c.ghost = c'.ghost) :
    Gen.Router.ServeHTTP g () req { poolGet := fun _ => (s1, c), poolPut := put, handle := handle } s1 =
    Gen.Router.ServeHTTP g () req { poolGet := fun _ => (s1, c'), poolPut := put, handle := handle } s1 := by
  rw [C10_gen_serveHTTP, C10_gen_serveHTTP]
  simp only [C10_gen_init_forgets c c' () req hg]

/-- **C03 (a request sees nothing of the request that used its pooled context before)**: whatever context
    `sync.Pool.Get` hands out — any context any earlier or concurrent request has put back, in whatever state — the
    generated `ServeHTTP` dispatches on the same context, so the outcome of a request is independent of the pool's
    choice (the part of "independent of the interleaving" that goes through the context pool). -/
theorem C03_gen_serve_pool_choice_irrelevant {σ : Type} (g : Gen.Router) (req : Option Nat) (s1 : σ) (c c' : Gen.Ctx γ)
    (handle : σ → Gen.Ctx γ → σ × Gen.Ctx γ × Option Panic) (put : σ → Gen.Ctx γ → σ) (hg : c.ghost = c'.ghost) :
    Gen.Router.ServeHTTP g () req { poolGet := fun _ => (s1, c), poolPut := put, handle := handle } s1 =
    Gen.Router.ServeHTTP g () req { poolGet := fun _ => (s1, c'), poolPut := put, handle := handle } s1 :=
  C10_gen_serve_forgets g req s1 c c' handle put hg

-- non-vacuity: a dirty context (aborted, status 500 committed, data and errors left) is pristine after Init
def dirtyCtx : Gen.Ctx Unit :=
  { index := 63, writer := { status := 500, length := 12, log := [.writeHeader 500] }, req := some 1, params := some [([1], [2])], data := some [([3], .str [4])], errors := [7], handlers := [(), ()], respOwn := false, ghost := () }

example : (Gen.Ctx.Init dirtyCtx () (some 2)).index = -1 ∧ (Gen.Ctx.Init dirtyCtx () (some 2)).data = none ∧
    (Gen.Ctx.Init dirtyCtx () (some 2)).writer.length = -1 := by decide

end Rux
