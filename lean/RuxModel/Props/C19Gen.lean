import RuxModel.Tie.Render
import RuxModel.Lemmas.Rt
/-
  C19 on the code GENERATED from pkg/render/render.go (Generated/Code.lean, regenerated by go/go2lean on every check
  run): `writeContentType`, `Blob`, `Text` / `Plain` / `TextBytes` / `HTML` / `HTMLBytes`, and `Auto`.

  clause of the property                                              theorem
  --------------------------------------------------------------------------------------------------------------
  the renderers never override a Content-Type the caller has set      C19_gen_ct_never_overridden (+ _blob, _text)
  … and set the documented one when there is none                     C19_gen_ct_documented
  the body is the data given (one Write; none for empty data)         C19_gen_blob_body
  failures are reported through the returned error, not a panic       C19_gen_blob_error (the generated definitions
                                                                      are total: no `Except`)
  negotiation by Accept picks the first supported type listed         C19_gen_auto_first_supported, _auto_nothing_else
  no supported type: an error, nothing rendered                       C19_gen_auto_unsupported
  an empty Accept list means the fallback type                        C19_gen_auto_fallback
-/
namespace Rux
open GoRt Tie

def Tie.ctTextG : Bytes := [0x74, 0x65, 0x78, 0x74, 0x2F, 0x70, 0x6C, 0x61, 0x69, 0x6E, 0x3B, 0x20, 0x63, 0x68, 0x61, 0x72, 0x73, 0x65, 0x74, 0x3D, 0x75, 0x74, 0x66, 0x2D, 0x38]
def Tie.ctHTMLG : Bytes := [0x74, 0x65, 0x78, 0x74, 0x2F, 0x68, 0x74, 0x6D, 0x6C, 0x3B, 0x20, 0x63, 0x68, 0x61, 0x72, 0x73, 0x65, 0x74, 0x3D, 0x75, 0x74, 0x66, 0x2D, 0x38]

-- the constants that go/types folded `httpctype.Text` / `httpctype.HTML` to are the documented content types of the
-- model (evaluated checks)
#guard Tie.ctTextG == Render.ctText && Tie.ctHTMLG == Render.ctHTML

/-- **never overridden**: a writer that already has a Content-Type keeps it through `writeContentType` -/
theorem C19_gen_ct_never_overridden (w : HW) (c v : Bytes) (h : HW.ct w = some c) :
    Gen.writeContentType w v = w := by
  rw [writeContentType_eq, h]; rfl

/-- … and through `Blob`, whatever type and data it is given -/
theorem C19_gen_ct_never_overridden_blob (w : HW) (c ct data : Bytes) (wans : HW → Bool) (h : HW.ct w = some c) :
    HW.ct (Gen.renderBlob w ct data wans).1 = some c := by
  rw [renderBlob_ct, h]
  rfl

/-- **documented type when none is set**: after `Blob(w, ct, …)` on a writer without Content-Type the type is `ct` -/
theorem C19_gen_ct_documented (w : HW) (ct data : Bytes) (wans : HW → Bool) (h : HW.ct w = none) :
    HW.ct (Gen.renderBlob w ct data wans).1 = some ct := by
  rw [renderBlob_ct, h]
  rfl

/-- **the body**: exactly one `Write` with exactly the data given, none when the data is empty; the header is only
    touched by the content-type rule -/
theorem C19_gen_blob_body (w : HW) (ct data : Bytes) (wans : HW → Bool) :
    (Gen.renderBlob w ct data wans).1.log = w.log ++ (if data = [] then [] else [HEv.write data]) := by
  rw [renderBlob_eq]
  split
  · simp [(writeContentType_ct w ct).2]
  · simp [HW.write, (writeContentType_ct w ct).2]

/-- **errors are returned**: the error of `Blob` is the error of its one `Write` (no error when nothing is written) -/
theorem C19_gen_blob_error (w : HW) (ct data : Bytes) (wans : HW → Bool) :
    (Gen.renderBlob w ct data wans).2 =
      (if data = [] then false else wans (HW.write (Gen.writeContentType w ct) data)) := by
  rw [renderBlob_eq]; split <;> rfl

/-- `Text`, `Plain`, `TextBytes` are `Blob` with `text/plain; charset=utf-8`; `HTML`, `HTMLBytes` with
    `text/html; charset=utf-8` -/
theorem C19_gen_text_aliases (w : HW) (data : Bytes) (wans : HW → Bool) :
    Gen.renderText w data wans = Gen.renderBlob w ctTextG data wans ∧
    Gen.renderPlain w data wans = Gen.renderBlob w ctTextG data wans ∧
    Gen.renderTextBytes w data wans = Gen.renderBlob w ctTextG data wans ∧
    Gen.renderHTML w data wans = Gen.renderBlob w ctHTMLG data wans ∧
    Gen.renderHTMLBytes w data wans = Gen.renderBlob w ctHTMLG data wans := by
  unfold ctTextG ctHTMLG
  refine ⟨?_, ?_, ?_, ?_, ?_⟩ <;> rfl

/-- **the text/plain branch of `Auto`** (`responseText` as generated): a string and a byte slice are sent as they are,
    every other value — whatever methods its type has — as its JSON encoding; when `json.Marshal` fails the error is
    returned and NOTHING is written (no header, no byte); all with `text/plain; charset=utf-8` -/
theorem C19_gen_auto_text_branch (w : HW) (wans : HW → Bool) (marshal : AnyV → Bytes × Bool) :
    (∀ s, Gen.responseText w (.str s) wans marshal = Gen.renderBlob w ctTextG s wans) ∧
    (∀ b, Gen.responseText w (.bytes b) wans marshal = Gen.renderBlob w ctTextG b wans) ∧
    (∀ id, Gen.responseText w (.other id) wans marshal =
      if (marshal (.other id)).2 then (w, true) else Gen.renderBlob w ctTextG (marshal (.other id)).1 wans) := by
  refine ⟨fun s => by rfl, fun b => by rfl, fun id => ?_⟩
  unfold Gen.responseText
  cases (marshal (.other id)).2 <;> simp [(C19_gen_text_aliases _ _ _).2.2.1] <;> rfl

/-- a value that is neither a string nor a byte slice is never sent as anything but its JSON encoding: the body is one
    `Write` of exactly the bytes `json.Marshal` returned (none if they are empty) -/
theorem C19_gen_auto_text_body (w : HW) (wans : HW → Bool) (marshal : AnyV → Bytes × Bool) (id : Nat)
    (h : (marshal (.other id)).2 = false) :
    (Gen.responseText w (.other id) wans marshal).1.log =
      w.log ++ (if (marshal (.other id)).1 = [] then [] else [HEv.write (marshal (.other id)).1]) := by
  rw [(C19_gen_auto_text_branch w wans marshal).2.2 id, h]
  simp only [Bool.false_eq_true, if_false]
  exact C19_gen_blob_body w ctTextG _ wans

/-- the package-level wrappers `render.JSON / JSONIndented / XML / XMLPretty` are the renderers with the default
    settings resp. with `PrettyIndent` as indent -/
theorem C19_gen_wrappers (w : HW) (wans : HW → Bool) (encode : JEnc → HW → HW × Bool) (pi : Bytes) :
    Gen.renderJSON w () wans encode pi = Gen.JSONR.Render default w () wans encode ∧
    Gen.renderJSONIndented w () wans encode pi = Gen.JSONR.Render { (default : Gen.JSONR) with indent := pi } w () wans encode ∧
    Gen.renderXML w () wans encode pi = Gen.XMLR.Render default w () wans encode ∧
    Gen.renderXMLPretty w () wans encode pi = Gen.XMLR.Render { (default : Gen.XMLR) with indent := pi } w () wans encode :=
  ⟨rfl, rfl, rfl, rfl⟩

/-- **`c.Render(status, view, data)`** (the router's template renderer): without a renderer an error and nothing sent; a
    view that fails — however much it had produced — returns its error and NOTHING is sent (no status, no header, no
    byte: the output went into a buffer of its own); a view that rendered is sent by `c.HTML(status, output)` -/
theorem C19_gen_render_view (c : List REv) (status : Int) (name : Bytes) (renderer : Option Nat) (view : Bytes → Bytes × Bool)
    (rerr : RKind → Bool) (cerr : Bool) :
    Gen.RC.Render c status name () renderer view rerr cerr =
      if renderer.isNone then (c, true)
      else if (view name).2 then (c, true)
      else (Gen.RC.HTML c status (view name).1 rerr cerr, false) := by
  unfold Gen.RC.Render
  cases renderer with
  | none => rfl
  | some r => cases (view name).2 <;> rfl

/-- the accept list `Auto` works on -/
def Tie.acceptsOf (env : RAEnv HW) (fb : Bytes) : List Bytes :=
  let acc := env.parseAccept (env.acceptHeader [65, 99, 99, 101, 112, 116])
  if acc = [] then [fb] else acc

theorem renderAuto_accepts (w : HW) (r : Option Nat) (env : RAEnv HW) (fb : Bytes) :
    Gen.renderAuto w r () env fb =
      match (acceptsOf env fb).findSome? akindOf with
      | some k => arun env k w false
      | none => (w, true) :=
  renderAuto_eq w r env fb

/-- **first supported type listed**: when the list is `pre ++ t :: post` with no supported type in `pre` and `t`
    supported, the renderer of `t`'s kind runs on the writer as it was given — and it is the result -/
theorem C19_gen_auto_first_supported (w : HW) (r : Option Nat) (env : RAEnv HW) (fb : Bytes)
    (pre post : List Bytes) (t : Bytes) (k : AKind) (hl : acceptsOf env fb = pre ++ t :: post)
    (hpre : ∀ a ∈ pre, akindOf a = none) (ht : akindOf t = some k) :
    Gen.renderAuto w r () env fb = arun env k w false := by
  rw [renderAuto_accepts, hl, List.findSome?_append, List.findSome?_eq_none_iff.mpr hpre, List.findSome?_cons, ht]
  rfl

/-- … so a later supported type is never rendered: the outcome does not depend on what follows `t` -/
theorem C19_gen_auto_nothing_else (w : HW) (r : Option Nat) (env env' : RAEnv HW) (fb : Bytes)
    (pre post post' : List Bytes) (t : Bytes) (k : AKind)
    (hl : acceptsOf env fb = pre ++ t :: post) (hl' : acceptsOf env' fb = pre ++ t :: post')
    (hpre : ∀ a ∈ pre, akindOf a = none) (ht : akindOf t = some k)
    (hj : env'.json = env.json) (hx : env'.xml = env.xml) (htx : env'.text = env.text) :
    Gen.renderAuto w r () env' fb = Gen.renderAuto w r () env fb := by
  rw [C19_gen_auto_first_supported w r env fb pre post t k hl hpre ht,
    C19_gen_auto_first_supported w r env' fb pre post' t k hl' hpre ht]
  cases k <;> simp [arun, hj, hx, htx]

/-- **no supported type**: an error, and the writer is untouched (nothing rendered, no Content-Type set) -/
theorem C19_gen_auto_unsupported (w : HW) (r : Option Nat) (env : RAEnv HW) (fb : Bytes)
    (h : ∀ a ∈ acceptsOf env fb, akindOf a = none) :
    Gen.renderAuto w r () env fb = (w, true) := by
  rw [renderAuto_accepts, List.findSome?_eq_none_iff.mpr h]

/-- **empty Accept**: the fallback type decides -/
theorem C19_gen_auto_fallback (w : HW) (r : Option Nat) (env : RAEnv HW) (fb : Bytes)
    (h : env.parseAccept (env.acceptHeader [65, 99, 99, 101, 112, 116]) = []) :
    Gen.renderAuto w r () env fb =
      match akindOf fb with
      | some k => arun env k w false
      | none => (w, true) := by
  rw [renderAuto_accepts, acceptsOf]
  simp only [h, if_true, List.findSome?_cons]
  cases akindOf fb <;> rfl

/-! ### the helpers of context_render.go, as generated: the calls they make, in order

  `c` is the list of calls made so far on the context / on `c.Resp` (`GoRt.REv`).  What the renderer returns (`rerr`)
  and what `io.Copy` returns (`cerr`) are parameters. -/

def Tie.ctJSONG : Bytes := [0x61, 0x70, 0x70, 0x6C, 0x69, 0x63, 0x61, 0x74, 0x69, 0x6F, 0x6E, 0x2F, 0x6A, 0x73, 0x6F, 0x6E, 0x3B, 0x20, 0x63, 0x68, 0x61, 0x72, 0x73, 0x65, 0x74, 0x3D, 0x75, 0x74, 0x66, 0x2D, 0x38]
#guard Tie.ctJSONG == Render.ctJSON
#guard Tie.hContentType == Bytes.ofString "Content-Type"

/-- **`Blob(status, ct, data)`**: the status it was given, THEN the content type it was given, then one write of the
    data (none when the data is empty) -/
theorem C19_gen_helper_blob (c : List REv) (status : Int) (ct data : Bytes) (rerr : RKind → Bool) (cerr : Bool) :
    Gen.RC.Blob c status ct data rerr cerr =
      c ++ [.wh status, .setHeader hContentType ct] ++ (if data = [] then [] else [.writeBytes data]) := by
  unfold Gen.RC.Blob
  cases data <;> simp [hContentType]

/-- `Text`, `HTML`, `HTMLString`, `JSONBytes`: `Blob` with the documented content type -/
theorem C19_gen_helper_text_html_json (c : List REv) (status : Int) (data : Bytes) (rerr : RKind → Bool) (cerr : Bool) :
    Gen.RC.Text c status data rerr cerr = Gen.RC.Blob c status ctTextG data rerr cerr ∧
    Gen.RC.HTML c status data rerr cerr = Gen.RC.Blob c status ctHTMLG data rerr cerr ∧
    Gen.RC.HTMLString c status data rerr cerr = Gen.RC.Blob c status ctHTMLG data rerr cerr ∧
    Gen.RC.JSONBytes c status data rerr cerr = Gen.RC.Blob c status ctJSONG data rerr cerr := by
  unfold ctTextG ctHTMLG ctJSONG
  refine ⟨?_, ?_, ?_, ?_⟩ <;> rfl

/-- **`Respond(status, obj, renderer)`**: the status is recorded, the renderer renders, and a rendering error goes to
    the context's error list (no panic, nothing else) -/
theorem C19_gen_helper_respond (c : List REv) (status : Int) (k : RKind) (rerr : RKind → Bool) (cerr : Bool) :
    Gen.RC.Respond c status () k rerr cerr =
      c ++ [.setStatus status, .render k] ++ (if rerr k then [.addError] else []) := by
  unfold Gen.RC.Respond
  cases rerr k <;> simp

/-- `ShouldRender` returns the error instead; `MustRender` is `Respond` -/
theorem C19_gen_helper_shouldRender (c : List REv) (status : Int) (k : RKind) (rerr : RKind → Bool) (cerr : Bool) :
    Gen.RC.ShouldRender c status () k rerr cerr = (c ++ [.setStatus status, .render k], rerr k) ∧
    Gen.RC.MustRender c status () k rerr cerr = Gen.RC.Respond c status () k rerr cerr := by
  refine ⟨?_, rfl⟩
  unfold Gen.RC.ShouldRender
  simp [Id.run, pure]

/-- `JSON`, `JSONP`: `Respond` with the JSON renderer, resp. the JSONP renderer with the callback given -/
theorem C19_gen_helper_json_jsonp (c : List REv) (status : Int) (cb : Bytes) (rerr : RKind → Bool) (cerr : Bool) :
    Gen.RC.JSON c status () rerr cerr = Gen.RC.Respond c status () .json rerr cerr ∧
    Gen.RC.JSONP c status cb () rerr cerr = Gen.RC.Respond c status () (.jsonp cb) rerr cerr := ⟨rfl, rfl⟩

/-- `XML(status, obj[, indent])`: never panics; `Respond` with the XML renderer, indented by the first optional
    argument when it is given and not empty -/
theorem C19_gen_helper_xml (c : List REv) (status : Int) (indents : List Bytes) (rerr : RKind → Bool) (cerr : Bool) :
    Gen.RC.XML c status () indents rerr cerr = .ok (Gen.RC.Respond c status () (.xml (indents.headD [])) rerr cerr) := by
  unfold Gen.RC.XML
  cases indents with
  | nil => rfl
  | cons a t =>
    simp only [len_pos_cons, if_true]
    cases a <;> rfl

/-- **`Stream(status, ct, reader)`**: status, content type, ONE `io.Copy`; its error goes to the error list -/
theorem C19_gen_helper_stream (c : List REv) (status : Int) (ct : Bytes) (rerr : RKind → Bool) (cerr : Bool) :
    Gen.RC.Stream c status ct () rerr cerr =
      c ++ [.wh status, .setHeader hContentType ct, .copy] ++ (if cerr then [.addError] else []) := by
  unfold Gen.RC.Stream
  cases cerr <;> simp [hContentType]

/-- `NoContent`: 204 and nothing else; `HTTPError(msg, status)`: net/http.Error with exactly that message and status;
    `Redirect(url[, code])`: never panics, 301 unless a code is given -/
theorem C19_gen_helper_misc (c : List REv) (msg url : Bytes) (status : Int) (codes : List Int)
    (rerr : RKind → Bool) (cerr : Bool) :
    Gen.RC.NoContent c rerr cerr = c ++ [.wh 204] ∧
    Gen.RC.HTTPError c msg status rerr cerr = c ++ [.httpError msg status] ∧
    Gen.RC.Redirect c url codes rerr cerr = .ok (c ++ [.redirect url (codes.headD 301)]) := by
  refine ⟨rfl, rfl, ?_⟩
  unfold Gen.RC.Redirect
  cases codes with
  | nil => rfl
  | cons a t => simp only [len_pos_cons, if_true]; rfl


/-! ### the renderers of json.go / xml.go, as generated

  `encode enc w` = `enc.Encode(obj)`: marshal the value with the settings `enc` and write the encoding to `w`, or fail. -/

def Tie.ctJSONPG : Bytes := [0x61, 0x70, 0x70, 0x6C, 0x69, 0x63, 0x61, 0x74, 0x69, 0x6F, 0x6E, 0x2F, 0x6A, 0x61, 0x76, 0x61, 0x73, 0x63, 0x72, 0x69, 0x70, 0x74, 0x3B, 0x20, 0x63, 0x68, 0x61, 0x72, 0x73, 0x65, 0x74, 0x3D, 0x75, 0x74, 0x66, 0x2D, 0x38]
def Tie.ctXMLG : Bytes := [0x61, 0x70, 0x70, 0x6C, 0x69, 0x63, 0x61, 0x74, 0x69, 0x6F, 0x6E, 0x2F, 0x78, 0x6D, 0x6C, 0x3B, 0x20, 0x63, 0x68, 0x61, 0x72, 0x73, 0x65, 0x74, 0x3D, 0x75, 0x74, 0x66, 0x2D, 0x38]
def Tie.xmlHeaderG : Bytes := [0x3C, 0x3F, 0x78, 0x6D, 0x6C, 0x20, 0x76, 0x65, 0x72, 0x73, 0x69, 0x6F, 0x6E, 0x3D, 0x22, 0x31, 0x2E, 0x30, 0x22, 0x20, 0x65, 0x6E, 0x63, 0x6F, 0x64, 0x69, 0x6E, 0x67, 0x3D, 0x22, 0x55, 0x54, 0x46, 0x2D, 0x38, 0x22, 0x3F, 0x3E, 0x0A]
#guard Tie.ctJSONPG == Render.ctJSONP && Tie.ctXMLG == Render.ctXML && Tie.xmlHeaderG == Render.xmlHeader

/-- the encoder settings a JSON renderer asks for -/
def Tie.jsonEnc (r : Gen.JSONR) : JEnc :=
  { prefix_ := [], indent := if r.indent != [] then r.indent else [], escapeHTML := !r.notEscape }

/-- **`JSONRenderer.Render`**: content type by the never-override rule, then ONE `Encode` with the renderer's
    settings; its error is the result -/
theorem C19_gen_json_render (r : Gen.JSONR) (w : HW) (wans : HW → Bool) (encode : JEnc → HW → HW × Bool) :
    Gen.JSONR.Render r w () wans encode = encode (jsonEnc r) (Gen.writeContentType w ctJSONG) := by
  unfold Gen.JSONR.Render jsonEnc
  cases r.indent != [] <;> cases r.notEscape <;> rfl

/-- **`JSONPRenderer.Render`: the body is `callback(` + encoding + `);`** — three steps on the same writer, each
    returning early with its error: `Write(callback + "(")`, `Encode`, `Write(");")` -/
theorem C19_gen_jsonp_render (r : Gen.JSONPR) (w : HW) (wans : HW → Bool) (encode : JEnc → HW → HW × Bool) :
    Gen.JSONPR.Render r w () wans encode =
      (let w1 := HW.write (Gen.writeContentType w ctJSONPG) (r.callback ++ [0x28])
       if wans w1 then (w1, true) else
       let e := encode default w1
       if e.2 then (e.1, true) else
       (HW.write e.1 [0x29, 0x3B], wans (HW.write e.1 [0x29, 0x3B]))) := by
  unfold Gen.JSONPR.Render
  simp only [Id.run, pure]
  rw [← ctJSONPG]
  generalize HW.write (Gen.writeContentType w ctJSONPG) (r.callback ++ [0x28]) = w1
  cases h1 : wans w1
  · cases (encode default w1).2 <;> simp
  · simp

/-- … so when nothing fails and the encoder writes its encoding `b` + newline (what json.Encoder does), the writes the
    underlying writer receives are exactly `callback(`, `b\n`, `);` in this order -/
theorem C19_gen_jsonp_body (r : Gen.JSONPR) (w : HW) (wans : HW → Bool) (encode : JEnc → HW → HW × Bool) (b : Bytes)
    (hw : ∀ x, wans x = false) (henc : ∀ e x, encode e x = (HW.write x (b ++ [10]), false)) :
    (Gen.JSONPR.Render r w () wans encode).2 = false ∧
    (Gen.JSONPR.Render r w () wans encode).1.log =
      w.log ++ [HEv.write (r.callback ++ [0x28]), HEv.write (b ++ [10]), HEv.write [0x29, 0x3B]] := by
  rw [C19_gen_jsonp_render]
  simp [hw, henc, HW.write, (writeContentType_ct w ctJSONPG).2]

/-- **`XMLRenderer.Render`**: content type, `Write(xml.Header)` (its error ends the call), then ONE `Encode` with the
    indent the renderer was given -/
theorem C19_gen_xml_render (r : Gen.XMLR) (w : HW) (wans : HW → Bool) (encode : JEnc → HW → HW × Bool) :
    Gen.XMLR.Render r w () wans encode =
      (let w1 := HW.write (Gen.writeContentType w ctXMLG) xmlHeaderG
       if wans w1 then (w1, true)
       else encode { prefix_ := [], indent := if r.indent != [] then r.indent else [], escapeHTML := true } w1) := by
  unfold Gen.XMLR.Render
  simp only [Id.run, pure]
  rw [← ctXMLG, ← xmlHeaderG]
  generalize HW.write (Gen.writeContentType w ctXMLG) xmlHeaderG = w1
  cases wans w1 <;> cases r.indent != [] <;> simp <;> rfl

/-- all three keep a Content-Type the caller has set (they go through `writeContentType`) -/
theorem C19_gen_renderers_ct (w : HW) (c : Bytes) (h : HW.ct w = some c) :
    Gen.writeContentType w ctJSONG = w ∧ Gen.writeContentType w ctJSONPG = w ∧ Gen.writeContentType w ctXMLG = w :=
  ⟨C19_gen_ct_never_overridden w c _ h, C19_gen_ct_never_overridden w c _ h, C19_gen_ct_never_overridden w c _ h⟩

/-- **C19 (`Context.Back`)**: a redirect to the request's Referer with the status that was given, 302 when none was —
    everything else (the Location header, the body, the refusal of a status outside 3xx) is `Redirect`'s -/
theorem C19_gen_back (c : List GoRt.REv) (oc : List Int) (referer : Bytes) (rerr : GoRt.RKind → Bool) (cerr : Bool) :
    Gen.RC.Back c oc referer rerr cerr = Gen.RC.Redirect c referer [oc.headD 302] rerr cerr ∧
    Gen.RC.Back c [] referer rerr cerr = Gen.RC.Redirect c referer [302] rerr cerr :=
  ⟨rfl, rfl⟩

end Rux
