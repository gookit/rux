import RuxModel.Tie.Copy
/-
  What a successful dynamic lookup stores in the route cache, on the code GENERATED from route.go `Params.clone`,
  `Route.copyWithParams` and parse_match.go `Router.cacheDynamicRoute` (Generated/Code.lean, regenerated by go/go2lean
  on every check run).  A later request answered from the cache gets this copy, so whatever the copy loses or changes
  is what a repeated request would see differently from the first one (C14: a repeat is answered as the first request
  was; C02: the params have exactly the route's variables with the captured values; C12: the route carries exactly the
  middleware of its groups; C10/C04: route name and chain are the same on every request).
-/
namespace Rux
open Tie GoRt

/-- **C14**: with the cache enabled a dynamic match stores, under the request's key, the matched route with only the
    compiled pattern and the variable-name list removed and the params replaced by their clone; with the cache
    disabled nothing is stored -/
theorem C14_gen_cache_stores_copy {σ : Type} (g : Gen.Router) (key : Bytes) (ps : Option KV) (route : Gen.Route)
    (cacheSet : σ → Bytes → Gen.Route → σ) (ord : KV → KV) (s : σ) :
    Gen.Router.cacheDynamicRoute g key ps route cacheSet ord s =
      if g.enableCaching then
        cacheSet s key { route with regex := none, matches_ := [], params := Gen.Params.clone ps ord }
      else s := by
  rw [cacheDynamicRoute_eq, copyWithParams_eq]

/-- **C12 / C04 / C10**: the cached copy has the route's name, path, methods, main handler and middleware chain (and
    the lookup prefix and the simplified path) -/
theorem C12_gen_cached_copy_keeps_chain (r : Gen.Route) (ps : Option KV) (ord : KV → KV) :
    let c := Gen.Route.copyWithParams r ps ord
    c.handlers = r.handlers ∧ c.handler = r.handler ∧ c.name = r.name ∧ c.path = r.path ∧ c.methods = r.methods ∧
    c.start = r.start ∧ c.spath = r.spath := by
  simp [copyWithParams_eq]

/-- **C02**: the params of the cached copy are the same map as the params of the match — a nil map stays nil, and for
    every visiting order of Go's `range` (any permutation of the pairs) the clone has exactly the same keys with the
    same values, no more and no fewer entries -/
theorem C02_gen_cached_params_same_map (r : Gen.Route) (ord : KV → KV) :
    (Gen.Route.copyWithParams r none ord).params = none ∧
    ∀ l : KV, KeysNodup l → (ord l).Perm l →
      ∃ l', (Gen.Route.copyWithParams r (some l) ord).params = some l' ∧ l'.length = l.length ∧
        ∀ k, kvFind l' k = kvFind l k := by
  refine ⟨rfl, fun l hn hp => ?_⟩
  obtain ⟨l', h, hl⟩ := clone_perm l ord hp hn
  exact ⟨l', by simp [copyWithParams_eq, h], hl.length_eq, kvFind_perm hl hn⟩

/-- **C03**: the copy's params are a NEW map — a later write into the matched params (the request's own map) does not
    change what the cache holds: the stored value does not mention the original after the call (value semantics of the
    translation), and it is built only from `make` + stores -/
theorem C03_gen_clone_is_fresh (l : KV) (ord : KV → KV) :
    Gen.Params.clone (some l) ord = (ord l).foldl (fun b a => kvSetO b a.1 a.2) (some []) := clone_some l ord

-- non-vacuity: a two-variable match, visited in reverse order; an optional variable with an empty value is kept
example : (Gen.Route.copyWithParams
    { name := [1], path := [2], methods := [[3]], handler := some 4, handlers := [5, 6], matches_ := [[7]], start := [8], spath := [9], regex := some [10] }
    (some [([1], [10]), ([2], [])]) List.reverse).params = some [([1], [10]), ([2], [])] := by decide
example : KeysNodup [([1], [10]), ([2], [])] := by unfold KeysNodup; decide

end Rux
