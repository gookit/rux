import RuxModel.Generated.Code
import RuxModel.Model.Pattern
/-
  C17 on the code GENERATED from router.go `StaticFile`, `StaticFunc`, `StaticFS`, `StaticDir`, `StaticFiles`
  (Generated/Code.lean, regenerated by go/go2lean on every check run): WHICH route each of them registers.  The router
  is the list of the patterns handed to `GET`; the handler closures and the net/http file servers behind them are
  opaque here — what they serve is the model's `Mount` (Model/Clean.lean, C17_confined …), compared with the real
  handlers by the `static` engine.
-/
namespace Rux

def Tie.filePat : Bytes := [0x2F, 0x7B, 0x66, 0x69, 0x6C, 0x65, 0x3A, 0x2E, 0x2B, 0x7D]                       -- "/{file:.+}"
def Tie.filesPatHead : Bytes := [0x2F, 0x7B, 0x66, 0x69, 0x6C, 0x65, 0x3A, 0x2E, 0x2B, 0x5C, 0x2E, 0x28, 0x3F, 0x3A]  -- "/{file:.+\.(?:"
#guard Tie.filePat == Bytes.ofString "/{file:.+}" && Tie.filesPatHead == Bytes.ofString "/{file:.+\\.(?:"

/-- **exactly one GET route each**: `StaticFile` / `StaticFunc` under the path given, `StaticFS` / `StaticDir` under
    the catch-all `prefix/{file:.+}`, `StaticFiles` under `prefix/{file:.+\.(?:exts)}` — the extension filter is part
    of the route's regex, so a request path that does not end in `.` + one of the alternatives does not reach the
    handler at all -/
theorem C17_gen_static_patterns (path filePath prefixURL dir exts : Bytes) :
    Gen.Router.StaticFile path filePath = [path] ∧
    Gen.Router.StaticFunc path () = [path] ∧
    Gen.Router.StaticFS prefixURL () = [prefixURL ++ Tie.filePat] ∧
    Gen.Router.StaticDir prefixURL dir = [prefixURL ++ Tie.filePat] ∧
    Gen.Router.StaticFiles prefixURL dir exts = [prefixURL ++ Tie.filesPatHead ++ exts ++ [0x29, 0x7D]] := by
  refine ⟨rfl, rfl, rfl, rfl, rfl⟩

/-- the variable of the catch-all pattern, as the pattern compiler reads it: name `file`, regex `.+` (it may span
    `/`: the value is a path below the mount, which the file server then cleans — `C17_clean_rooted`) -/
theorem C17_gen_catchall_var (gv : GVars) :
    (parseVarIn gv [0x7B, 0x66, 0x69, 0x6C, 0x65, 0x3A, 0x2E, 0x2B, 0x7D]).name = [0x66, 0x69, 0x6C, 0x65] ∧
    (parseVarIn gv [0x7B, 0x66, 0x69, 0x6C, 0x65, 0x3A, 0x2E, 0x2B, 0x7D]).regex = [0x2E, 0x2B] ∧
    goodRegexString (parseVarIn gv [0x7B, 0x66, 0x69, 0x6C, 0x65, 0x3A, 0x2E, 0x2B, 0x7D]).regex = true :=
  ⟨rfl, rfl, rfl⟩

/-- the variable regex of `StaticFiles` is accepted by `goodRegexString` for every extension list: its first `(` is the
    non-capturing `(?:` (a capturing group INSIDE the list is caught by the group count, `goodRegexGroups`) -/
theorem C17_gen_files_regex_accepted (exts : Bytes) :
    goodRegexString ([0x2E, 0x2B, 0x5C, 0x2E, 0x28, 0x3F, 0x3A] ++ exts ++ [0x29]) = true := by
  unfold goodRegexString
  rfl

end Rux
