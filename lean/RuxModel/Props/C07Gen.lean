import RuxModel.Tie.Pipeline
import RuxModel.Props.C06Gen
import RuxModel.Props.C07
import RuxModel.Props.C02
import RuxModel.Props.C01
/-
  C06 / C07 / C03 / C01 / C02 on the COMPOSED generated pipeline (Tie/Pipeline.lean): `QuickMatch` as generated from
  parse_match.go, whose `r.match` is the generated `Router.match` and whose `r.findAllowedMethods` is the generated
  `findAllowedMethods` (which calls the generated `match` again) — over the model's tables and route cache, no model
  function in between.  `ord` is the order in which Go's `range` visits the keys of the map in `findAllowedMethods`:
  any function that keeps the length (a permutation does).
-/
namespace Rux
open Tie

/-- histories served by the composed generated pipeline, threading the router state (the route cache) -/
def genRunPipe (g : Gen.Router) (ord : List Bytes → List Bytes) (rt : RouterM) : List (Bytes × Bytes) → List (Option Obs)
  | [] => []
  | mp :: h =>
    match Gen.Router.QuickMatch g mp.1 mp.2 (envG g ord) rt with
    | .ok (rt', res) => some (genObs res) :: genRunPipe g ord rt' h
    | .error _ => [none]

/-- the generated record describes the router built with the options `o` -/
structure GenRel (g : Gen.Router) (o : Opts) : Prop where
  opts : OptsRel g o
  caching : g.enableCaching = o.caching

/-- **C06 on the composed pipeline**: every request of every history is resolved in the fixed order of the stateless
    specification `quickPure` (direct match, HEAD→GET, `/*` of the method, 405 with exactly the other matching methods,
    404), whatever was served before and whatever the cache holds. -/
theorem C06_gen_pipeline_history (g : Gen.Router) (ord : List Bytes → List Bytes) (hord : ∀ l, (ord l).length = l.length)
    (o : Opts) (rs : List RouteM) (hg : GenRel g o) (h : List (Bytes × Bytes)) (hm : ∀ mp ∈ h, (0x2F : Nat) ∉ mp.1) :
    genRunPipe g ord (build o rs) h = h.map fun mp => some (obsOrd ord (quickPure (build o rs) mp.1 mp.2)) := by
  have key : ∀ (h : List (Bytes × Bytes)) (rt : RouterM), GenRel g rt.opts →
      genRunPipe g ord rt h = (runQuick rt h).map (fun o => some (obsOrd ord o)) := by
    intro h
    induction h with
    | nil => intro _ _; rfl
    | cons mp h ih =>
      intro rt hrel
      simp only [genRunPipe, runQuick, tie_pipeline g ord rt hrel.opts hrel.caching anyMethodsB_nodup hord mp.1 mp.2,
        List.map_cons, genObs_absResO ord hord]
      congr 1
      exact ih _ (by rw [(quickMatch_tables rt mp.1 mp.2).opts]; exact hrel)
  rw [key h (build o rs) (by rw [build_opts]; exact hg), C07_history_is_pure o rs h hm, List.map_map]
  rfl

/-- **C07 on the composed pipeline**: the generated code with the route cache enabled (any capacity) observes, request
    by request, exactly what it observes with the cache disabled — after evictions, for repeated requests, for HEAD
    fallbacks and for method-not-allowed probes (they all go through the generated `match`). -/
theorem C07_gen_pipeline_transparent (g g' : Gen.Router) (ord : List Bytes → List Bytes)
    (hord : ∀ l, (ord l).length = l.length) (o : Opts) (rs : List RouteM) (cap : Nat)
    (hg : GenRel g { o with caching := true, cap := cap }) (hg' : GenRel g' { o with caching := false, cap := cap })
    (h : List (Bytes × Bytes)) (hm : ∀ mp ∈ h, (0x2F : Nat) ∉ mp.1) :
    genRunPipe g ord (build { o with caching := true, cap := cap } rs) h =
      genRunPipe g' ord (build { o with caching := false, cap := cap } rs) h := by
  rw [C06_gen_pipeline_history g ord hord _ rs hg h hm, C06_gen_pipeline_history g' ord hord _ rs hg' h hm]
  apply List.map_congr_left
  intro mp _
  rw [quickPure_caching_irrelevant o rs true cap, quickPure_caching_irrelevant o rs false cap]


/-- **C03 (the routing tables are read-only after registration) on the composed pipeline**: serving a request with
    the generated `QuickMatch` / `match` / `findAllowedMethods` leaves the options and the three routing tables exactly
    as they were — the only shared state a request changes is the route cache (the part behind the RW mutex), and it
    stays coherent.  Requests therefore cannot influence each other through the tables, whatever their order. -/
theorem C03_gen_pipeline_tables_readonly (g : Gen.Router) (ord : List Bytes → List Bytes)
    (hord : ∀ l, (ord l).length = l.length) (rt : RouterM) (hg : GenRel g rt.opts) (hc : CacheOK rt)
    (m p : Bytes) (hm : (0x2F : Nat) ∉ m) :
    ∃ rt' res, Gen.Router.QuickMatch g m p (envG g ord) rt = .ok (rt', res) ∧ SameTables rt rt' ∧ CacheOK rt' := by
  refine ⟨_, _, tie_pipeline g ord rt hg.opts hg.caching anyMethodsB_nodup hord m p, ?_, ?_⟩
  · exact (quickMatch_spec rt m p hm hc).2.1
  · exact (quickMatch_spec rt m p hm hc).2.2

/-- … and so the answer to a request does not depend on which requests were served before it, in whatever order
    (any two histories, e.g. two interleavings of the same concurrent requests, followed by the same request) -/
theorem C03_gen_pipeline_history_independent (g : Gen.Router) (ord : List Bytes → List Bytes)
    (hord : ∀ l, (ord l).length = l.length) (o : Opts) (rs : List RouteM) (hg : GenRel g o)
    (h1 h2 : List (Bytes × Bytes)) (m p : Bytes)
    (hm1 : ∀ mp ∈ h1, (0x2F : Nat) ∉ mp.1) (hm2 : ∀ mp ∈ h2, (0x2F : Nat) ∉ mp.1) (hm : (0x2F : Nat) ∉ m) :
    (genRunPipe g ord (build o rs) (h1 ++ [(m, p)])).getLast? =
      (genRunPipe g ord (build o rs) (h2 ++ [(m, p)])).getLast? := by
  have happ : ∀ h' : List (Bytes × Bytes), (∀ mp ∈ h', (0x2F : Nat) ∉ mp.1) → ∀ mp ∈ h' ++ [(m, p)], (0x2F : Nat) ∉ mp.1 :=
    fun h' hm' => List.forall_mem_append.mpr ⟨hm', List.forall_mem_singleton.mpr hm⟩
  rw [C06_gen_pipeline_history g ord hord o rs hg _ (happ h1 hm1),
    C06_gen_pipeline_history g ord hord o rs hg _ (happ h2 hm2)]
  simp

/-- **C01 on the composed pipeline**: the table is built by registering ANY accepted list of definitions (model of
    registration), the request is served by the generated code: whenever the specification selects a route for the
    method and the normalised path (the static route registered last for exactly this path, else the first registered
    matching dynamic route with the path's first segment as literal prefix, else the first matching of the rest), the
    generated pipeline answers exactly that route with exactly those parameters. -/
theorem C01_gen_pipeline_select (g : Gen.Router) (ord : List Bytes → List Bytes) (hord : ∀ l, (ord l).length = l.length)
    (o : Opts) (defs : List RouteDef) (rt : RouterM) (rs : List RouteM)
    (hreg : registerAll (RouterM.new o) defs = some (rt, rs)) (hg : GenRel g o) (hi : o.intercept = [])
    (m p : Bytes) (hm : (0x2F : Nat) ∉ m) (r : RouteM) (ps : Params)
    (hsel : specSelect rs m (fmtPath o.strict p) = some (r, ps)) :
    genRunPipe g ord rt [(m, p)] = [some (.route r ps)] := by
  obtain ⟨(hb : rt = build o rs), (hopts : rt.opts = o), _⟩ := registerAll_build defs _ _ _ hreg
  have hlook : lookupPure rt m (lookupPath rt p) = some (r, ps) := by
    have : lookupPath rt p = fmtPath o.strict p := by simp [lookupPath, hopts, hi]
    rw [this, C01_priority o defs rt rs hreg m p hm]; exact hsel
  have hq := C06_direct_first rt m p r ps hlook
  rw [hb] at hq ⊢
  rw [C06_gen_pipeline_history g ord hord o rs hg [(m, p)] (by simpa using hm)]
  simp [hq, obsOrd]

/-- **C02 on the composed pipeline**: the parameters the generated code reports for a dynamic route have exactly the
    route's variable names as keys, each once, and they are the values of a reading of the whole normalised path by the
    route's pattern (so substituting them back reproduces the path: `C02_subst`); a static route reports none. -/
theorem C02_gen_pipeline_params (g : Gen.Router) (ord : List Bytes → List Bytes) (hord : ∀ l, (ord l).length = l.length)
    (o : Opts) (defs : List RouteDef) (rt : RouterM) (rs : List RouteM)
    (hreg : registerAll (RouterM.new o) defs = some (rt, rs)) (hg : GenRel g o) (hi : o.intercept = [])
    (m p : Bytes) (hm : (0x2F : Nat) ∉ m) (r : RouteM) (ps : Params)
    (hsel : specSelect rs m (fmtPath o.strict p) = some (r, ps)) :
    genRunPipe g ord rt [(m, p)] = [some (.route r ps)] ∧
    (r.static = true → ps = []) ∧
    (r.static = false →
      (∃ caps, LevelsLang r.info.levels caps (fmtPath o.strict p) ∧ ps = mkParams r.info.names caps) ∧
      (∀ kv ∈ ps, kv.1 ∈ r.info.names) ∧ (∀ n ∈ r.info.names, ∃ v, (n, v) ∈ ps) ∧ (ps.map (·.1)).Nodup) := by
  refine ⟨C01_gen_pipeline_select g ord hord o defs rt rs hreg hg hi m p hm r ps hsel,
    C02_static_no_params rs m _ r ps hsel, fun hns => ?_⟩
  -- a dynamic route is selected by its regex match, and registration accepted it
  obtain ⟨hin, _, ⟨hs, _⟩ | ⟨_, hmatch⟩⟩ := specSelect_some hsel
  · exact absurd hs (hns ▸ Bool.false_ne_true)
  · obtain ⟨_, _, htab⟩ := registerAll_build defs _ _ _ hreg
    exact ⟨routeMatch_some_levels hmatch, C02_names r _ ps (htab.dynOK r hin hns) hmatch⟩

end Rux
