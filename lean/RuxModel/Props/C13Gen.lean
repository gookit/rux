import RuxModel.Generated.Code
import RuxModel.Lemmas.Rt
/-
  C13 / C02 on the code GENERATED from route.go `Route.matchRegex` / `Route.match` (Generated/Code.lean, regenerated
  by go/go2lean on every check run).  The compiled regexp is a parameter: `findAll path` is what
  `FindAllStringSubmatch(path, -1)` answers (no row = no match; a row = the whole match followed by one entry per
  capturing group).  The indexing `r.matches_[i]` is explicit (`Except Panic`), so "cannot panic" is a theorem.
-/
namespace Rux
open GoRt

/-- an accepted route never panics at lookup: when the regexp answers with rows of at most (number of variable
    names + 1) entries — which `goodRegexGroups` guarantees at registration (`NumSubexp() == len(matches)`) — the
    generated `matchRegex` returns normally; and its parameters are the variable names bound to the captures -/
theorem C13_gen_matchRegex (r : Gen.Route) (path : Bytes) (findAll : Bytes → List (List Bytes)) :
    (findAll path = [] → Gen.Route.matchRegex r path findAll = .ok (none, false)) ∧
    (∀ full caps rest, findAll path = (full :: caps) :: rest → caps.length ≤ r.matches_.length →
      Gen.Route.matchRegex r path findAll =
        .ok (some ((r.matches_.zip caps).foldl (fun m p => GoRt.kvSet m p.1 p.2) []), true)) := by
  constructor
  · intro h
    simp [Gen.Route.matchRegex, h, pure, Except.pure]
  · intro full caps rest h hl
    unfold Gen.Route.matchRegex
    have hne : ((((full :: caps) :: rest).length : Int) == 0) = false := rfl
    have hslice : GoRt.sliceList (full :: caps) 1 ((full :: caps).length : Int) = .ok caps := by
      rw [show (1 : Int) = ((1 : Nat) : Int) from rfl, sliceList_nat _ ⟨by simp, Nat.le_refl _⟩]; simp
    simp only [h, hne, Bool.false_eq_true, if_false, bind, Except.bind, pure, Except.pure, GoRt.listAt,
      Int.lt_irrefl 0, List.getElem?_cons_zero, Int.toNat_zero, hslice]
    -- after `n` rounds the first `n` names are bound to the first `n` captures; `show … from`: the loop body `_` comes from the goal
    rw [show forIn (enum caps) (some []) _ = _ from
        forIn_enum caps _ (fun n => some (((r.matches_.zip caps).take n).foldl (fun m p => GoRt.kvSet m p.1 p.2) []))
          fun n hn => by
            have hn' : n < r.matches_.length := Nat.lt_of_lt_of_le hn hl
            rw [elemAt_eq_listAt, listAt_nat _ hn', List.take_add_one,
              List.getElem?_eq_getElem (by rw [List.length_zip]; exact Nat.lt_min.mpr ⟨hn', hn⟩), List.getElem_zip]
            simp,
      List.take_of_length_le (by rw [List.length_zip]; exact Nat.min_le_right ..)]

/-- when the regexp answers with MORE groups than there are names the generated code panics (index out of range):
    the registration-time check `goodRegexGroups` is what excludes this (F5) -/
theorem C13_gen_matchRegex_needs_group_check (findAll : Bytes → List (List Bytes)) (path full c : Bytes)
    (h : findAll path = [[full, c]]) :
    Gen.Route.matchRegex { (default : Gen.Route) with matches_ := [] } path findAll = .error .index := by
  simp [Gen.Route.matchRegex, h, bind, Except.bind, GoRt.listAt, GoRt.sliceList, GoRt.enum,
    GoRt.enumFrom, GoRt.elemAt]

/-- `Route.match`: the literal-prefix test comes first; a route whose `start` is not a prefix of the path does not
    match, whatever its regexp says -/
theorem C01_gen_route_match_prefix (r : Gen.Route) (path : Bytes) (findAll : Bytes → List (List Bytes))
    (hs : r.start ≠ []) (hp : GoRt.index path r.start ≠ 0) :
    Gen.Route.match_ r path findAll = .ok (none, false) := by
  have h1 : (r.start != ([] : Bytes)) = true := by simp [hs]
  have h2 : (GoRt.index path r.start != 0) = true := by simp [hp]
  simp [Gen.Route.match_, h1, h2, pure, Except.pure]

end Rux
