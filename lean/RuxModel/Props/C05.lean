import RuxModel.Lemmas.Chain
import RuxModel.Generated.Facts
/-
  C05 — Abort stops every later handler and only later handlers.

  Property theorems only (model: Model/Chain.lean, lemmas: Lemmas/Chain.lean).  Everything rests on
  `serve_eq_onion` (here: `C05_run_is_onion`): within the handler limit the cursor loop of `Context.Next` (int8 cursor,
  wrap made explicit in the model) computes exactly the onion specification; the clauses about the trace are read off the validator that
  every onion trace passes.  All theorems quantify over EVERY chain of at most `Facts.abortIndex` (= 63) handlers —
  global + group + route middleware + main handler — and every behaviour of every handler: any sequence of emit /
  Next() / Abort / AbortThen / AbortWithStatus(c) / AbortWithStatus(c, msg) / IsAborted() / SetStatus / Write, hence every
  position of the aborting handler, abort before / after / without Next(), and 0, 1, 2, … Next() calls per handler.

  Clause of the statement                                         theorem
  ----------------------------------------------------------------------------------------------------
  "no handler later in the chain starts … even if Next() is       C05_no_later_start
    called afterwards"
  "handlers already suspended inside Next() resume and run to     C05_suspended_resume (each started
    completion"                                                     handler performs each of its actions
                                                                    exactly once, in order, and returns)
                                                                  C05_resume_order (they return last in,
                                                                    first out, i.e. in reverse order)
  "IsAborted() is false before and true after"                    C05_isAborted
  "every position … every chain shape within the documented       hypothesis `hs.length ≤ abortIndex` of all
    handler limit"                                                  theorems; C05_limit_ok (facts of the
                                                                    source: int8 cursor, abortIndex = 63,
                                                                    Use / appendGroupInfo compare with it);
                                                                  C05_limit_registration (what the two
                                                                    registration checks accept)
  "AbortWithStatus additionally determines the response status    C05_abort_status,
    unless the response was already committed"                    C05_abort_status_committed
  termination / no panic / cursor never leaves [-1, 63]           C05_terminates

  NOT proved here, on purpose:
  * The response writer is abstract (status / write events folded by `finalStatus`, which mirrors
    `responseWriter.WriteHeader/Write/ensureWriteHeader`); the writer itself is property C08.
  * Which chain is assembled for a route (globals ++ groups ++ route middleware ++ [main]) is C04/C12
    (`Reg` model); here the chain is an arbitrary list.
  * The registration checks count the ROUTE's chain only (group + route middleware, `< abortIndex`, so
    with the main handler at most 63).  Global middleware (`Router.Use`) is NOT counted by any check, so
    a router with global middleware can build chains of more than 63 handlers; that is outside the
    hypothesis of the theorems and outside the property's quantifier ("within the documented handler
    limit").  The last `example`s show that the hypothesis is tight: with 64 handlers `IsAborted()` is
    already true in the last handler although nobody aborted.
  * Handlers that panic (C09), handlers that replace `c.Resp`, and concurrent use of one Context.
-/
namespace Rux
open Chain

/-- Main theorem.  A request whose chain has at most `abortIndex` handlers ends normally; its trace is
    the onion of the chain; the cursor ends at `abortIndex` if somebody aborted, else at the last handler. -/
theorem C05_run_is_onion (hs : List Handler) (hlen : (hs.length : Int) ≤ Facts.abortIndex) :
    serve hs = .ok ⟨if (onion 0 hs).2 then Chain.abortIndex else (hs.length : Int) - 1, (onion 0 hs).1⟩ :=
  -- the lemmas are stated with `Chain.abortIndex`, the same numeral as `Facts.abortIndex` (`C05_limit_ok`)
  serve_eq_onion hlen

/-- Termination is proved, not assumed: `hs.length + 1` loop iterations / nesting levels always suffice
    (and more fuel changes nothing), there is no index panic, and the cursor ends inside the int8 range —
    at the last handler or at `abortIndex`. -/
theorem C05_terminates (hs : List Handler) (hlen : (hs.length : Int) ≤ Facts.abortIndex) :
    ∃ st, serve hs = .ok st ∧ (∀ f, hs.length + 1 ≤ f → next hs f ⟨-1, []⟩ = .ok st) ∧
      (st.idx = (hs.length : Int) - 1 ∨ st.idx = Chain.abortIndex) ∧ -1 ≤ st.idx ∧ st.idx ≤ 63 := by
  have h63 := le_63_of_le_abortIndex hlen
  refine ⟨_, serve_eq_onion hlen, ?_, ?_, ?_⟩
  · intro f hf
    obtain ⟨d, rfl⟩ := Nat.exists_eq_add_of_le' hf
    simpa [Nat.add_assoc] using next_eq_onion hlen d hs.length 0 (Nat.zero_add _) []
  · cases (onion 0 hs).2 <;> simp
  · simp only [Chain.abortIndex]; cases (onion 0 hs).2 <;> simp <;> omega

/-- After any of Abort / AbortThen / AbortWithStatus — in whichever handler, before or after its Next(),
    whatever Next() calls follow anywhere — no handler starts any more. -/
theorem C05_no_later_start (hs : List Handler) (hlen : (hs.length : Int) ≤ Facts.abortIndex)
    (st : St) (hrun : serve hs = .ok st) (pre post : List Ev) (e : Ev)
    (hsplit : st.trace = pre ++ e :: post) (habort : e.isAbort = true) :
    ∀ j, Ev.enter j ∉ post := by
  obtain ⟨k, ab, _, _, hck⟩ := serve_check hlen hrun
  rw [hsplit] at hck
  obtain ⟨s1, s2, _, h2, h3⟩ := check_split hck
  exact check_no_enter h3 (by rw [(checkStep_some h2 []).1, habort]; simp)

/-- Every handler that has started — in particular every handler that is suspended inside Next() when
    somebody aborts — performs each of its actions exactly once, in order, and returns: the events of
    handler `j` in the trace are `enter j`, the events of all its actions (`shape`), `leave j`. -/
theorem C05_suspended_resume (hs : List Handler) (hlen : (hs.length : Int) ≤ Facts.abortIndex)
    (st : St) (hrun : serve hs = .ok st) (j : Nat) (hstarted : Ev.enter j ∈ st.trace) :
    ∃ h, hs[j]? = some h ∧
      (proj j st.trace).map Ev.erase = [Ev.enter j] ++ shape j h ++ [Ev.leave j] := by
  rw [serve_trace hlen hrun] at hstarted ⊢
  rcases proj_onion hs 0 j with h0 | ⟨k, h, hk, hp⟩
  · have : Ev.enter j ∈ proj j (onion 0 hs).1 := List.mem_filter.mpr ⟨hstarted, decide_eq_true rfl⟩
    rw [h0] at this; cases this
  · obtain rfl : j = k := hk.trans (Nat.zero_add k)
    exact ⟨h, hp⟩

/-- … and they return in reverse order: the trace obeys the stack discipline `nest` (a `leave` always
    closes the innermost running handler, a handler acts only while it is the innermost running one)
    and nobody is left suspended at the end. -/
theorem C05_resume_order (hs : List Handler) (hlen : (hs.length : Int) ≤ Facts.abortIndex)
    (st : St) (hrun : serve hs = .ok st) : nest [] st.trace = some [] :=
  serve_nest hlen hrun

/-- `IsAborted()`, observed anywhere in the request, is true iff an abort happened earlier in the request. -/
theorem C05_isAborted (hs : List Handler) (hlen : (hs.length : Int) ≤ Facts.abortIndex)
    (st : St) (hrun : serve hs = .ok st) (pre post : List Ev) (h t : Nat) (b : Bool)
    (hsplit : st.trace = pre ++ Ev.aborted h t b :: post) :
    b = true ↔ ∃ e ∈ pre, e.isAbort = true := by
  obtain ⟨k, ab, _, _, hck⟩ := serve_check hlen hrun
  rw [hsplit] at hck
  obtain ⟨s1, s2, h1, h2, _⟩ := check_split hck
  -- the sample is accepted only if it equals the validator's flag, which is "an abort event so far"
  obtain ⟨⟨_, rfl⟩, _⟩ := Option.ite_none_right_eq_some.mp h2
  rw [(check_sound h1).1]
  simp

/-- `AbortWithStatus(c)` (the adjacent pair `WriteHeader(c)`, `Abort()`), `c > 0`: if no body byte was
    written before it and nobody sets another status afterwards (only handlers that had already started
    can: nobody else runs), the client sees `c` — whether the commit happens through a later body write or
    at the end of the request. -/
theorem C05_abort_status (pre post : List Ev) (i c : Nat) (hc : c > 0)
    (hnotCommitted : ∀ e ∈ pre, e.isWrite = false) (hnoOverride : ∀ e ∈ post, e.isStatus = false) :
    finalStatus (pre ++ Ev.status i c :: Ev.abort i :: post) = c := by
  have h1 : ((W.run {} pre).step (.status i c)).committed = none :=
    (W.step_committed _ rfl).trans (W.run_no_write {} hnotCommitted)
  have h2 := W.step_status (W.run {} pre) i hc
  -- nothing in `post` changes what is committed at the end, and the `abort` event does not touch the writer
  simp only [finalStatus, W.run_append, W.run_cons, W.run_no_status _ hnoOverride]
  show (((W.run {} pre).step (.status i c)).ensure.committed).getD 0 = c
  simp only [W.ensure, h1, h2, Nat.ne_of_gt hc, if_false, Option.getD_some]

/-- "unless the response was already committed": after the first body write the status the client sees
    is fixed, whatever (AbortWithStatus included) comes later. -/
theorem C05_abort_status_committed (pre post : List Ev) (hcommitted : ∃ e ∈ pre, e.isWrite = true) :
    finalStatus (pre ++ post) = finalStatus pre := by
  obtain ⟨s, hs⟩ := W.run_write {} hcommitted
  have hs' := W.run_committed hs post
  simp only [finalStatus, W.run_append, W.ensure_of_committed hs, W.ensure_of_committed hs', hs, hs']

/-- The facts of the source the limit rests on, re-extracted from /repo on every run: the cursor is an
    `int8`, `abortIndex` is 63 (= the model's constant, and it fits the cursor type with room for the
    `index++` of the loop), and both `Route.Use` and `appendGroupInfo` compare a handler count with
    `abortIndex` using `>=`. -/
theorem C05_limit_ok :
    Facts.indexType = "int8" ∧ Facts.abortIndex = 63 ∧ Chain.abortIndex = Facts.abortIndex ∧
    "Use" ∈ Facts.limitChecks ∧ "appendGroupInfo" ∈ Facts.limitChecks ∧
    Facts.abortIndex + 1 ≤ 127 := by decide

/-- What the two registration checks accept (model `routeUse` / `groupAttach` of `Route.Use` /
    `appendGroupInfo`, tied to the code by the `chain` engine's `lim` ops): a route never holds
    `abortIndex` or more middleware, so a route's own chain — group + route middleware + main handler —
    has at most `abortIndex` handlers.  Global middleware is not counted by either check. -/
theorem C05_limit_registration (grp cur add n : Nat) :
    (routeUse cur add = some n ↔ (n = cur + add ∧ ((cur + add : Nat) : Int) < Facts.abortIndex)) ∧
    (groupAttach grp cur = some n → ((cur : Int) < Facts.abortIndex) →
      n = grp + cur ∧ ((n : Nat) : Int) + 1 ≤ Facts.abortIndex) := by
  have h1 : Chain.abortIndex = 63 := rfl
  have h2 : Facts.abortIndex = 63 := rfl
  unfold routeUse groupAttach
  refine ⟨?_, fun h hcur => ?_⟩
  · rw [Option.ite_none_left_eq_some, Option.some.injEq]; omega
  · split at h
    · rw [Option.ite_none_left_eq_some, Option.some.injEq] at h; omega
    · cases h; omega

/-! ### non-vacuity -/

-- `demoAbort` (Model/Chain.lean): abort after Next() in the 2nd of 5 handlers, two handlers suspended
example : ((demoAbort.length : Nat) : Int) ≤ Facts.abortIndex := by decide

example : serve demoAbort = .ok ⟨63,
    [.enter 0, .mark 0 1, .enter 1, .mark 1 4, .enter 2, .aborted 2 7 false, .enter 3, .mark 3 9, .leave 3,
     .enter 4, .mark 4 10, .leave 4, .mark 2 8, .leave 2, .status 1 403, .abort 1, .aborted 1 5 true,
     .mark 1 6, .leave 1, .aborted 0 2 true, .mark 0 3, .leave 0]⟩ := by rfl

example : finalStatus (onion 0 demoAbort).1 = 403 := by decide

/-- the hypotheses of the theorems above are met by this run: it contains an abort event with events
    after it, a false and a true IsAborted() sample, and started handlers that were suspended -/
example : Ev.abort 1 ∈ (onion 0 demoAbort).1 ∧ Ev.aborted 2 7 false ∈ (onion 0 demoAbort).1 ∧
    Ev.aborted 0 2 true ∈ (onion 0 demoAbort).1 ∧ Ev.enter 0 ∈ (onion 0 demoAbort).1 ∧
    (proj 0 (onion 0 demoAbort).1).map Ev.erase = [Ev.enter 0] ++ shape 0 [.emit 1, .next, .isAborted 2, .emit 3] ++ [Ev.leave 0] ∧
    nest [] (onion 0 demoAbort).1 = some [] := by decide

/-- `C05_abort_status`: its hypotheses hold for the part of the demo trace around `AbortWithStatus(403)`;
    `C05_abort_status_committed`: a write before the abort fixes the status (200 here) -/
example : finalStatus ([Ev.enter 0, .mark 0 4] ++ Ev.status 0 403 :: Ev.abort 0 :: [.write 0 1, .leave 0]) = 403 ∧
    finalStatus ([Ev.enter 0, .write 0 1] ++ [Ev.status 0 403, .abort 0, .leave 0]) = 200 := by decide

/-- abort BEFORE Next() in the first of 3 handlers: nobody else starts, Next() afterwards does nothing -/
example : serve [[.abort, .next, .emit 1], [.emit 2], [.emit 3]] =
    .ok ⟨63, [.enter 0, .abort 0, .mark 0 1, .leave 0]⟩ := by rfl

/-- the registration checks: 62 middleware accepted, 63 refused; with one global middleware in front the
    accepted route gives a chain of 1 + 62 + 1 = 64 handlers, which no check refuses -/
example : routeUse 0 62 = some 62 ∧ routeUse 0 63 = none ∧ groupAttach 30 32 = some 62 ∧
    groupAttach 31 32 = none := by decide

/-- the hypothesis is tight: in a chain of 64 handlers that never aborts, `IsAborted()` is true in the
    last handler (cursor 63 = abortIndex) -/
example : ∃ tr, serve (List.replicate 63 [] ++ [[Act.isAborted 0]]) = .ok ⟨63, tr⟩ ∧
    Ev.aborted 63 0 true ∈ tr := by
  refine ⟨(onion 0 (List.replicate 63 [])).1 ++ [.enter 63, .aborted 63 0 true, .leave 63], ?_, by simp⟩
  decide +kernel

end Rux
