import RuxModel.Lemmas.Render
/-
  C19 — Response helpers emit the given status, content type and a decodable body.

  Property theorems only (model: Model/Render.lean on top of Model/Writer.lean; specs: Spec/Render.lean).
  The encoders (encoding/json, encoding/xml) are PARAMETERS: `Enc.ok bytes | Enc.error` is their verdict
  on the value.  "A body that decodes back to the value" is therefore proved here as "the body is exactly
  the encoder's output (framed as documented)"; that the stdlib decoders invert the stdlib encoders is
  NOT proved — it is sampled by the `render` engine (decode with encoding/json / encoding/xml and compare).
  Hence the level of C19 is "proof, partial".

  All `C19_*_emits` theorems quantify over every status (any integer), every payload, every state `s`
  of a request in which nothing is committed yet (`s.w.length = -1`: any recorded status, any
  Content-Type set by the caller or absent), with an underlying writer that accepts the writes
  (`s.script = []`).  They give the complete writer state after the helper; `C19_committed` turns that
  into what the client gets at the end of the request.

  Clause of the statement                                         theorem(s)
  ---------------------------------------------------------------------------------------------------
  status given, documented Content-Type, body — per helper:
    Blob / Text / HTML / JSONBytes                                C19_blob_emits, C19_blob_empty_emits,
                                                                  C19_text_html_jsonbytes
    JSON                                                          C19_json_emits
    JSONP  (callback(…);)                                         C19_jsonp_emits
    XML                                                           C19_xml_emits
    Stream                                                        C19_stream_emits
    NoContent                                                     C19_nocontent_emits
    Redirect                                                      C19_redirect_emits, C19_redirect_nobody
    HTTPError                                                     C19_httperror_emits
    … and that this is what is committed / what the client sees   C19_committed
  "renderers of pkg/render never override a Content-Type
   the caller has already set"                                    C19_no_override, C19_sets_documented_when_absent
  "negotiation by Accept picks the first supported type listed"   C19_negotiate, C19_choose_first_supported,
                                                                  C19_choose_none, C19_supported_set
  "encoding failures are reported through the error list or the
   returned error instead of a panic"                             C19_errors_reported, C19_errors_returned,
                                                                  C19_write_errors_reported, C19_stream_errors_reported

  NOT proved: the decode round trip (sampled); that Go's encoders never panic (they are parameters that
  return `error`); XML encodings of 4096 bytes or more (bufio chunking — the concatenated body is the
  same, the number of Write calls is not modelled); `c.Blob`-family helpers DO override a preset
  Content-Type (`Header().Set`) and DO panic when the underlying writer fails (`WriteBytes`) — that is
  the code's documented behaviour and outside the statement (pkg/render renderers / encoding failures).
-/
namespace Rux
open Writer Render

/-! ### status, content type and body per helper

  Stream apart, each proof is one computation and its `simp only` list reads in that order: unfolded, a helper is
  `setStatus st`, the Content-Type decision, then its writes, each complete since the script is exhausted (`write_nil`).
  The two operations in front leave `length = -1`, so the first write is commit + write (`first_write`), a later one
  appends (`next_write`), and after no write the end of the request is the commit alone (`commit_eq`). -/

/-- `c.Blob(status, ct, data)` with data: status committed = the given one when positive, the
    Content-Type is the given one (also when the caller had set another), one write of exactly the data -/
theorem C19_blob_emits (st : Int) (ct data : Bytes) (s : St)
    (hl : s.w.length = -1) (hs : s.script = []) (hd : data ≠ []) :
    (blob st ct data s).st.w =
      { status := commitCode st s.w.status, length := data.length, ctype := some ct,
        sent := some (some ct),
        log := s.w.log ++ [.wh (commitCode st s.w.status), .w data data.length false] } ∧
    (blob st ct data s).panicked = false ∧ (blob st ct data s).st.errs = s.errs := by
  simp only [blob, List.isEmpty_eq_false_iff.mpr hd, St.op, write_nil, hs, step_setStatus, step_setCT, hl, first_write,
    Bool.false_eq_true, if_false, and_self]

/-- `c.Blob` without data ("only write headers"): status recorded and Content-Type set; the commit
    follows at the end of the request (`C19_committed`) -/
theorem C19_blob_empty_emits (st : Int) (ct : Bytes) (s : St) (hl : s.w.length = -1) :
    (blob st ct [] s).st.finish =
      { status := commitCode st s.w.status, length := 0, ctype := some ct, sent := some (some ct),
        log := s.w.log ++ [.wh (commitCode st s.w.status)] } ∧
    (blob st ct [] s).panicked = false ∧ (blob st ct [] s).st.errs = s.errs := by
  simp only [blob, St.finish, List.isEmpty_nil, if_true, St.op, step_setStatus, step_setCT, hl, commit_eq,
    and_self]

/-- Text, HTML, JSONBytes are `Blob` with their documented content types -/
theorem C19_text_html_jsonbytes (st : Int) (data : Bytes) :
    text st data = blob st (ascii "text/plain; charset=utf-8") data ∧
    html st data = blob st (ascii "text/html; charset=utf-8") data ∧
    jsonBytes st data = blob st (ascii "application/json; charset=utf-8") data :=
  ⟨rfl, rfl, rfl⟩

/-- `c.JSON(status, v)` when the encoder succeeds: one write of `enc v` + newline; Content-Type
    `application/json; charset=utf-8` unless the caller had set one -/
theorem C19_json_emits (st : Int) (b : Bytes) (s : St) (hl : s.w.length = -1) (hs : s.script = []) :
    (json st (.ok b) s).st.w =
      { status := commitCode st s.w.status, length := (b ++ [10]).length,
        ctype := keepCT s.w.ctype ctJSON, sent := some (keepCT s.w.ctype ctJSON),
        log := s.w.log ++ [.wh (commitCode st s.w.status), .w (b ++ [10]) (b ++ [10]).length false] } ∧
    (json st (.ok b) s).panicked = false ∧ (json st (.ok b) s).st.errs = s.errs := by
  simp only [json, respond, rJSON, St.op, write_nil, hs, step_setStatus, step_setCTIfAbsent, hl, first_write,
    Bool.false_eq_true, if_false, keepCT, and_self]

/-- `c.JSONP(status, callback, v)`: the body is `callback(` + `enc v` + newline + `);` -/
theorem C19_jsonp_emits (st : Int) (cb b : Bytes) (s : St) (hl : s.w.length = -1) (hs : s.script = []) :
    (jsonp st cb (.ok b) s).st.w =
      { status := commitCode st s.w.status,
        length := (cb ++ [40]).length + (b ++ [10]).length + 2,
        ctype := keepCT s.w.ctype ctJSONP, sent := some (keepCT s.w.ctype ctJSONP),
        log := s.w.log ++ [.wh (commitCode st s.w.status), .w (cb ++ [40]) (cb ++ [40]).length false,
                           .w (b ++ [10]) (b ++ [10]).length false, .w [41, 59] 2 false] } ∧
    bodyOf (jsonp st cb (.ok b) s).st.w.log = bodyOf s.w.log ++ (cb ++ [40] ++ b ++ [10] ++ [41, 59]) ∧
    (jsonp st cb (.ok b) s).panicked = false ∧ (jsonp st cb (.ok b) s).st.errs = s.errs := by
  simp only [jsonp, respond, rJSONP, St.op, write_nil, hs, step_setStatus, step_setCTIfAbsent, hl, first_write,
    next_write, Bool.false_eq_true, if_false, keepCT, and_true]
  constructor
  · simp  -- the cast of the sum of the three lengths, and the log as one list
  · simp only [bodyOf_append, bodyOf_wh, bodyOf_w, bodyOf_nil, List.append_nil, List.append_assoc]

/-- `c.XML(status, v)`: `xml.Header` then the encoding (one write, nothing when it is empty) -/
theorem C19_xml_emits (st : Int) (b : Bytes) (s : St) (hl : s.w.length = -1) (hs : s.script = []) :
    bodyOf (xml st (.ok b) s).st.w.log = bodyOf s.w.log ++ (xmlHeader ++ b) ∧
    (xml st (.ok b) s).st.w.status = commitCode st s.w.status ∧
    (xml st (.ok b) s).st.w.ctype = keepCT s.w.ctype ctXML ∧
    (xml st (.ok b) s).st.w.sent = some (keepCT s.w.ctype ctXML) ∧
    (∃ evs, (xml st (.ok b) s).st.w.log = s.w.log ++ .wh (commitCode st s.w.status) :: evs ∧
            evs.all (fun e => !e.isWH) = true) ∧
    (xml st (.ok b) s).panicked = false ∧ (xml st (.ok b) s).st.errs = s.errs := by
  -- an empty encoding is not written: the log has two shapes
  cases b <;>
    simp only [xml, respond, rXML, St.op, write_nil, hs, step_setStatus, step_setCTIfAbsent, hl, first_write,
      next_write, Bool.false_eq_true, if_false, keepCT, List.isEmpty_nil, List.isEmpty_cons, if_true,
      Bool.or_false, and_true, true_and]
  · exact ⟨by simp only [bodyOf_append, bodyOf_wh, bodyOf_w, bodyOf_nil, List.append_nil], _, rfl, rfl⟩
  · exact ⟨by simp only [bodyOf_append, bodyOf_wh, bodyOf_w, bodyOf_nil, List.append_nil, List.append_assoc],
      _, List.append_assoc _ _ _, rfl⟩

/-- `c.NoContent()`: 204, no body -/
theorem C19_nocontent_emits (s : St) (hl : s.w.length = -1) :
    (noContent s).st.finish =
      { s.w with status := 204, length := 0, sent := some s.w.ctype, log := s.w.log ++ [.wh 204] } ∧
    (noContent s).panicked = false ∧ (noContent s).st.errs = s.errs := by
  simp only [noContent, St.finish, St.op, step_setStatus, hl, commit_eq, and_true]
  rfl  -- `commitCode 204 _` is 204

/-- `c.Stream(status, ct, reader)`: for every read script of the reader (chunks of any size, data
    together with io.EOF, empty reads, errors) — what the client gets at the end of the request:
    the given status, the given Content-Type, the reader's data up to its end; a reader error
    (other than io.EOF) is reported in `c.Errors` -/
theorem C19_stream_emits (st : Int) (ct : Bytes) (reads : List (Bytes × RErr)) (s : St)
    (hl : s.w.length = -1) (hs : s.script = []) :
    (stream st ct reads s).st.finish.log =
        s.w.log ++ .wh (commitCode st s.w.status) :: ioEvents (copyOps reads) ∧
    (ioEvents (copyOps reads)).all (fun e => !e.isWH) = true ∧
    bodyOf (ioEvents (copyOps reads)) = streamData reads ∧
    (stream st ct reads s).st.finish.sent = some (some ct) ∧
    (stream st ct reads s).st.finish.ctype = some ct ∧
    (stream st ct reads s).st.errs = s.errs + (if readsOk reads then 0 else 1) ∧
    (stream st ct reads s).panicked = false := by
  have heq : stream st ct reads s =
      ⟨{ s with w := run (step (step s.w (.setStatus st)) (.setCT ct)) (copyOps reads),
                errs := s.errs + (if readsOk reads then 0 else 1) }, false⟩ := by
    simp only [stream, copy_run reads ((s.op (.setStatus st)).op (.setCT ct)) hs]
    cases readsOk reads <;> rfl
  have hw : (step (step s.w (.setStatus st)) (.setCT ct)).length = -1 := by
    rw [step_setCT, step_setStatus]
    exact hl
  simp only [heq, St.finish, finish_io_uncommitted hw (copyOps_io reads)]
  simp only [step_setCT, step_setStatus, commitCode_eq, true_and, and_true]
  exact ⟨ioEvents_no_wh _, by rw [bodyOf_ioEvents, specBody_copyOps]⟩

/-- `c.Redirect(url[, code])` for a GET request without Content-Type: the given code (301 when none is
    given), `text/html`, net/http's little page as the body -/
theorem C19_redirect_emits (code : Option Int) (body : Bytes) (s : St)
    (hl : s.w.length = -1) (hs : s.script = []) (hct : s.w.ctype = none) :
    (redirect .get code body s).st.w =
      { status := commitCode (code.getD 301) s.w.status, length := body.length,
        ctype := some (ascii "text/html; charset=utf-8"),
        sent := some (some (ascii "text/html; charset=utf-8")),
        log := s.w.log ++ [.wh (commitCode (code.getD 301) s.w.status), .w body body.length false] } ∧
    (redirect .get code body s).panicked = false ∧ (redirect .get code body s).st.errs = s.errs := by
  simp only [redirect, viaOps, hs, actOps, hct, Option.isSome_none, redirectOps_get_noct, run,
    List.foldl_cons, List.foldl_nil, step_setHeader, step_setStatus, step_setCT, hl, first_write, and_true]
  rfl  -- `ctTextHtml` is that literal

/-- Redirect of a HEAD request without Content-Type: code and `text/html`, no body; with a Content-Type
    already present, or for other methods: the code only (that is net/http's rule) -/
theorem C19_redirect_nobody (m : Meth) (code : Option Int) (body : Bytes) (s : St)
    (hl : s.w.length = -1) (hm : m ≠ .get ∨ s.w.ctype ≠ none) :
    (redirect m code body s).st.finish.log = s.w.log ++ [.wh (commitCode (code.getD 301) s.w.status)] ∧
    (redirect m code body s).st.finish.ctype =
      (if s.w.ctype = none ∧ m = .head then some (ascii "text/html; charset=utf-8") else s.w.ctype) := by
  simp only [redirect, viaOps, St.finish, actOps, redirectOps_nobody hm]
  split <;>
    simp only [List.cons_append, List.nil_append, run, List.foldl_cons, List.foldl_nil, step_setHeader,
      step_setCT, step_setStatus, hl, commit_eq, and_self, true_and]
  rfl

/-- `c.HTTPError(msg, code)`: the given code, `text/plain` (net/http resets the type for the error
    text), the message and a newline -/
theorem C19_httperror_emits (code : Int) (msg : Bytes) (s : St)
    (hl : s.w.length = -1) (hs : s.script = []) :
    (httpError code msg s).st.w =
      { status := commitCode code s.w.status, length := (msg ++ [10]).length,
        ctype := some (ascii "text/plain; charset=utf-8"),
        sent := some (some (ascii "text/plain; charset=utf-8")),
        log := s.w.log ++ [.wh (commitCode code s.w.status), .w (msg ++ [10]) (msg ++ [10]).length false] } ∧
    (httpError code msg s).panicked = false ∧ (httpError code msg s).st.errs = s.errs := by
  simp only [httpError, viaOps, hs, actOps, httpErrorOps, run, List.foldl_cons, List.foldl_nil,
    step_setHeader, step_setStatus, step_setCT, hl, first_write, and_true]
  rfl  -- `ctTextPlain` is that literal

/-- a helper that has written leaves a committed writer, and then the end of the request adds
    nothing: what the `_emits` theorems state is what the client has got -/
theorem C19_committed (s : St) (h : 0 ≤ s.w.length) : s.finish = s.w :=
  ensure_committed s.w h

/-! ### content negotiation -/

/-- `render.Auto` IS the decision procedure: parse the Accept header, take the first listed type that is
    supported (`text/plain` when nothing is listed) and render exactly that; error when there is none.
    For every Accept header, value, encoder verdicts and writer state. -/
theorem C19_negotiate (accept : Bytes) (v : Val) (es : Encs) (s : St) :
    rAuto accept v es s =
      match choose (parseAccept accept) with
      | some k => rKind k v es s
      | none => (s, true) := by
  unfold rAuto choose
  simp only [autoLoop_eq]
  cases (if (parseAccept accept).isEmpty = true then [mimeText] else parseAccept accept).findSome? kindOf <;> rfl

/-- the choice is the FIRST supported entry: everything listed before it is unsupported -/
theorem C19_choose_first_supported (accepts : List Bytes) (k : Kind) :
    choose accepts = some k ↔
      ∃ pre t post, (if accepts.isEmpty then [mimeText] else accepts) = pre ++ t :: post ∧
        kindOf t = some k ∧ ∀ x ∈ pre, kindOf x = none := by
  exact List.findSome?_eq_some_iff

/-- no choice exactly when nothing listed is supported -/
theorem C19_choose_none (accepts : List Bytes) :
    choose accepts = none ↔ ∀ x ∈ (if accepts.isEmpty then [mimeText] else accepts), kindOf x = none := by
  exact List.findSome?_eq_none_iff

/-- the supported set, and what each member selects -/
theorem C19_supported_set (t : Bytes) (k : Kind) :
    kindOf t = some k ↔
      (t = ascii "application/json" ∧ k = .json) ∨ (t = ascii "text/html" ∧ k = .html) ∨
      (t = ascii "text/plain" ∧ k = .text) ∨
      ((t = ascii "application/xml" ∨ t = ascii "text/xml") ∧ k = .xml) := by
  constructor
  · fun_cases kindOf t with
    | case1 h => rintro ⟨⟩; exact .inl ⟨h, rfl⟩
    | case2 _ h => rintro ⟨⟩; exact .inr (.inl ⟨h, rfl⟩)
    | case3 _ _ h => rintro ⟨⟩; exact .inr (.inr (.inl ⟨h, rfl⟩))
    | case4 _ _ _ h => rintro ⟨⟩; exact .inr (.inr (.inr ⟨h, rfl⟩))
    | case5 => exact nofun
  · obtain ⟨h1, h2, h3, h4, h5⟩ := kindOf_table
    rintro (⟨h, rfl⟩ | ⟨h, rfl⟩ | ⟨h, rfl⟩ | ⟨h | h, rfl⟩) <;> rw [h]
    · exact h1
    · exact h2
    · exact h3
    · exact h4
    · exact h5

/-! ### pkg/render never overrides a Content-Type -/

/-- every renderer of pkg/render — for every payload, encoder verdict, Accept header and every behaviour
    of the underlying writer — leaves a Content-Type that is already set exactly as it is -/
theorem C19_no_override (v : Bytes) (s : St) (h : s.w.ctype = some v)
    (ct data cb accept : Bytes) (e : Enc) (val : Val) (es : Encs) :
    (rBlob ct data s).1.w.ctype = some v ∧
    (rJSON e s).1.w.ctype = some v ∧
    (rJSONP cb e s).1.w.ctype = some v ∧
    (rXML e s).1.w.ctype = some v ∧
    (rView s).1.w.ctype = some v ∧
    (rText val es s).1.w.ctype = some v ∧
    (rAuto accept val es s).1.w.ctype = some v := by
  have hk : ∀ d, keepCT s.w.ctype d = some v := fun d => by rw [h, keepCT_some]
  have hb : ∀ ct d, (rBlob ct d s).1.w.ctype = some v := fun ct d => (rBlob_ctype ct d s).trans (hk _)
  have ht : (rText val es s).1.w.ctype = some v := by
    fun_cases rText val es s
    · exact hb _ _
    · exact hb _ _
    · exact h
    · exact hb _ _
  refine ⟨hb ct data, (rJSON_ctype e s).trans (hk _), (rJSONP_ctype cb e s).trans (hk _),
    (rXML_ctype e s).trans (hk _), (rView_ctype s).trans (hk _), ht, ?_⟩
  · rw [C19_negotiate]
    cases choose (parseAccept accept) with
    | none => exact h
    | some k =>
      cases k with
      | json => exact (rJSON_ctype _ s).trans (hk _)
      | html => exact h
      | text => exact ht
      | xml => exact (rXML_ctype _ s).trans (hk _)

/-- … and sets the documented one when none is there -/
theorem C19_sets_documented_when_absent (s : St) (h : s.w.ctype = none)
    (ct data cb : Bytes) (e : Enc) :
    (rBlob ct data s).1.w.ctype = some ct ∧
    (rJSON e s).1.w.ctype = some (ascii "application/json; charset=utf-8") ∧
    (rJSONP cb e s).1.w.ctype = some (ascii "application/javascript; charset=utf-8") ∧
    (rXML e s).1.w.ctype = some (ascii "application/xml; charset=utf-8") ∧
    (rView s).1.w.ctype = some (ascii "text/html; charset=utf-8") := by
  rw [rBlob_ctype, rJSON_ctype, rJSONP_ctype, rXML_ctype, rView_ctype, h]
  exact ⟨keepCT_none _, keepCT_none _, keepCT_none _, keepCT_none _, keepCT_none _⟩

/-! ### failures are reported, not thrown -/

/-- an encoding failure in JSON / JSONP / XML — in any state, whatever the underlying writer does —
    adds exactly one error to `c.Errors` and does not panic -/
theorem C19_errors_reported (st : Int) (cb : Bytes) (s : St) :
    ((json st .error s).st.errs = s.errs + 1 ∧ (json st .error s).panicked = false) ∧
    ((jsonp st cb .error s).st.errs = s.errs + 1 ∧ (jsonp st cb .error s).panicked = false) ∧
    ((xml st .error s).st.errs = s.errs + 1 ∧ (xml st .error s).panicked = false) := by
  refine ⟨⟨?_, rfl⟩, ⟨?_, rfl⟩, ⟨?_, rfl⟩⟩
  · simp [json, respond, rJSON, St.op]
  · simp [jsonp, respond, rJSONP_error, write_errs, St.op]
  · simp [xml, respond, rXML_error, write_errs, St.op]

/-- the renderers of pkg/render return the encoder's error; `Auto` returns it for the chosen renderer
    and returns an error when no listed type is supported -/
theorem C19_errors_returned (cb accept : Bytes) (v : Val) (es : Encs) (s : St) :
    (rJSON .error s).2 = true ∧ (rJSONP cb .error s).2 = true ∧ (rXML .error s).2 = true ∧
    (es.marshal = .error → (rText .other es s).2 = true) ∧
    (choose (parseAccept accept) = some .json → es.json = .error → (rAuto accept v es s).2 = true) ∧
    (choose (parseAccept accept) = some .xml → es.xml = .error → (rAuto accept v es s).2 = true) ∧
    (choose (parseAccept accept) = none → rAuto accept v es s = (s, true)) := by
  refine ⟨rfl, ?_, ?_, ?_, ?_, ?_, ?_⟩
  · rw [rJSONP_error]
  · rw [rXML_error]
  · intro h; simp [rText, h]
  · intro hc he; rw [C19_negotiate, hc]; simp [rKind, he, rJSON]
  · intro hc he; rw [C19_negotiate, hc]; simp only [rKind, he, rXML_error]
  · intro hc; rw [C19_negotiate, hc]

/-- a failing write of the underlying writer during JSON is reported in `c.Errors` too -/
theorem C19_write_errors_reported (st : Int) (b : Bytes) (w : W) (acc errs : Nat) (rest : Script) :
    (json st (.ok b) ⟨w, (acc, true) :: rest, errs⟩).st.errs = errs + 1 ∧
    (json st (.ok b) ⟨w, (acc, true) :: rest, errs⟩).panicked = false := by
  simp [json, respond, rJSON, St.op, write]

/-- Stream: a failing or short write on the first chunk, or a failing read, is reported -/
theorem C19_stream_errors_reported (st : Int) (ct d : Bytes) (re : RErr) (rest : List (Bytes × RErr))
    (w : W) (acc errs : Nat) (err : Bool) (sc : Script) (hd : d ≠ [])
    (hbad : err = true ∨ acc < d.length) :
    (stream st ct ((d, re) :: rest) ⟨w, (acc, err) :: sc, errs⟩).st.errs = errs + 1 ∧
    (stream st ct ((d, re) :: rest) ⟨w, (acc, err) :: sc, errs⟩).panicked = false := by
  have hcond : (err || decide (min acc d.length < d.length)) = true := by
    rcases hbad with rfl | h
    · rfl
    · rw [Nat.min_eq_left (Nat.le_of_lt h), decide_eq_true h, Bool.or_true]
  simp [stream, copy, List.isEmpty_eq_false_iff.mpr hd, write, St.op, hcond]

/-! ### non-vacuity -/

def demoSt : St := ⟨⟨404, -1, some (ascii "x/y"), none, []⟩, [], 0⟩

-- the hypotheses of the `_emits` theorems hold for a state with a recorded status and a caller's type
example : demoSt.w.length = -1 ∧ demoSt.script = [] := by decide

-- JSON with status 0: the recorded 404 is committed, the caller's Content-Type stays
example : (json 0 (.ok [123, 125]) demoSt).st.w =
    ⟨404, 3, some (ascii "x/y"), some (some (ascii "x/y")), [.wh 404, .w [123, 125, 10] 3 false]⟩ := rfl

-- Text overrides the caller's Content-Type (Header().Set), the renderers do not
example : (text 201 [104, 105] demoSt).st.w.ctype = some (ascii "text/plain; charset=utf-8") := rfl

-- JSONP on a fresh request
example : bodyOf (jsonp 200 (ascii "cb") (.ok (ascii "1")) (St.fresh none [])).st.w.log = ascii "cb(1\n);" := by
  decide

-- unencodable value: reported, the commit still happens at the end with the given status
example : (json 201 .error (St.fresh none [])).st.errs = 1 ∧
    (json 201 .error (St.fresh none [])).st.finish.log = [.wh 201] := by decide

-- a reader that returns its data together with io.EOF, after an empty read
example : bodyOf (stream 200 (ascii "a/b") [([], .none), ([1, 2], .none), ([3], .eof), ([4], .none)]
    (St.fresh none [])).st.finish.log = [1, 2, 3] := by decide

-- negotiation: F12's inputs
example : parseAccept (ascii "application/xml") = [ascii "application/xml"] := by
  rw [ascii_ofList]
  decide
example : choose (parseAccept (ascii "application/xml, application/json")) = some .xml := by
  unfold choose kindOf mimeJSON mimeHTML mimeText mimeXML mimeXML2
  repeat rw [ascii_ofList]
  decide
example : choose (parseAccept (ascii " text/csv ;q=1 ,, text/xml;q=0.5, text/plain")) = some .xml := by
  unfold choose kindOf mimeJSON mimeHTML mimeText mimeXML mimeXML2
  repeat rw [ascii_ofList]
  decide
example : choose (parseAccept []) = some .text := by simp [choose, parseAccept, kindOf_table]
example : choose (parseAccept (ascii "image/png")) = none := by
  unfold choose kindOf mimeJSON mimeHTML mimeText mimeXML mimeXML2
  repeat rw [ascii_ofList]
  decide

end Rux
