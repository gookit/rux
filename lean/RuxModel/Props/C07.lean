import RuxModel.Lemmas.Transparent
import RuxModel.Props.C14
/-
  C07 — The dynamic-route cache never changes what a request observes.
  (and the router-level clause of C14: the entry of exactly that method and path is present after a
   dynamic match, and an immediate repeat is answered from the cache)

  Statement clauses → theorems
    "for every sequence of requests, the selected route, the parameters … are identical to those produced
     by the same router with caching disabled — after evictions, for repeated requests, for HEAD fallbacks
     and for method-not-allowed probes"        C07_transparent  (every history, every capacity incl. 0,
                                               every option combination; the internal probes of HEAD→GET
                                               and 405 discovery go through the same cache)
    the invariant behind it                    C07_cache_coherent (every entry is what the pure lookup gives)
    C14 "the entry for exactly that method and path is present"   C14_router_key
    C14 "an immediate repeat is answered from the cache"          C14_repeat_hits
  Hypotheses: registration finished before the first request (the table is `build o rs`), request methods
  contain no '/', handlers treat Params as read-only (the model has no handler side effects on the cache).
  Responses are a function of the observation `Obs` (route, params | allowed set | not found), see C06.
-/
namespace Rux

theorem build_cacheOK (o : Opts) (rs : List RouteM) : CacheOK (build o rs) := by
  rw [build_frame o o]
  exact Cache.empty_coherent _ _

/-- the invariant: whatever history has been served, every cache entry is what the pure lookup returns
    for its key, and the tables are untouched -/
theorem C07_cache_coherent (o : Opts) (rs : List RouteM) (h : List (Bytes × Bytes))
    (hm : ∀ mp ∈ h, (0x2F : Nat) ∉ mp.1) :
    ∀ rt, SameTables (build o rs) rt → CacheOK rt →
      SameTables (build o rs) (h.foldl (fun rt mp => (quickMatch rt mp.1 mp.2).2) rt) ∧
      CacheOK (h.foldl (fun rt mp => (quickMatch rt mp.1 mp.2).2) rt) :=
  fun rt hs hc => (runQuick_spec h hm _ rt hs hc).2

/-- every history is answered as the stateless specification answers it -/
theorem C07_history_is_pure (o : Opts) (rs : List RouteM) (h : List (Bytes × Bytes))
    (hm : ∀ mp ∈ h, (0x2F : Nat) ∉ mp.1) :
    runQuick (build o rs) h = h.map fun mp => quickPure (build o rs) mp.1 mp.2 :=
  (runQuick_spec h hm _ _ (SameTables.refl _) (build_cacheOK _ rs)).1

/-- the stateless specification does not look at the caching options -/
theorem quickPure_caching_irrelevant (o : Opts) (rs : List RouteM) (c : Bool) (cap : Nat) (m p : Bytes) :
    quickPure (build { o with caching := c, cap := cap } rs) m p = quickPure (build o rs) m p := by
  rw [build_frame _ o, build_frame o o]
  rfl

/-- C07: for every table, every option record, every cache capacity (0 included) and every request
    history, the caching router observes exactly what the same router without cache observes -/
theorem C07_transparent (o : Opts) (rs : List RouteM) (cap : Nat) (h : List (Bytes × Bytes))
    (hm : ∀ mp ∈ h, (0x2F : Nat) ∉ mp.1) :
    runQuick (build { o with caching := true, cap := cap } rs) h =
      runQuick (build { o with caching := false, cap := cap } rs) h := by
  rw [C07_history_is_pure _ rs h hm, C07_history_is_pure _ rs h hm]
  apply List.map_congr_left
  intro mp _
  rw [quickPure_caching_irrelevant o rs true cap, quickPure_caching_irrelevant o rs false cap]

/-! ### C14, router level -/

-- `hinv` is not used: `C14_mru_set` needs the capacity only
set_option linter.unusedVariables false in
/-- after a dynamic request has been resolved with caching enabled (capacity ≥ 1), the entry for exactly
    that method and path is present and is the most recent one -/
theorem C14_router_key (rt : RouterM) (m p : Bytes) (hcach : rt.opts.caching = true) (hcap : 1 ≤ rt.cache.cap)
    (hinv : rt.cache.Inv) (hs : alistGet rt.stable (m ++ p) = none)
    (r : RouteM) (ps : Params) (c : Bool) (h : (matchM rt m p).1 = some (r, ps, c)) :
    (matchM rt m p).2.cache.items.head? = some (m ++ p, (r, ps)) := by
  revert h
  rw [matchM_dyn rt m p hs]
  simp only [hcach, if_true]
  refine Cache.get_elim rt.cache (m ++ p) (fun _ => ?_) fun v _ h => ?_
  · -- a miss: the match is stored in front
    cases dynMatch rt m p with
    | none => exact nofun
    | some x => intro h; cases h; exact C14_mru_set _ _ _ hcap
  · cases h; rfl

/-- … so an immediate repeat of the request takes the cache branch and returns the same route and
    parameters -/
theorem C14_repeat_hits (rt : RouterM) (m p : Bytes) (hcach : rt.opts.caching = true) (hcap : 1 ≤ rt.cache.cap)
    (hinv : rt.cache.Inv) (hs : alistGet rt.stable (m ++ p) = none)
    (r : RouteM) (ps : Params) (c : Bool) (h : (matchM rt m p).1 = some (r, ps, c)) :
    (matchM (matchM rt m p).2 m p).1 = some (r, ps, true) := by
  have hk := C14_router_key rt m p hcach hcap hinv hs r ps c h
  obtain ⟨hop, hst, _, _⟩ := matchM_tables rt m p
  generalize (matchM rt m p).2 = rt1 at hk hst hop
  rw [matchM_dyn rt1 m p (hst ▸ hs), hop]
  simp only [hcach, if_true]
  rw [Cache.get_of_lookup_some (Cache.lookup_of_head? hk)]

end Rux
