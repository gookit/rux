import RuxModel.Lemmas.Dispatch
import RuxModel.Generated.Facts
/-
  C10 — Every request starts from a pristine context whatever happened before.

  Statement (properties.jsonl): "Whatever the handlers of earlier requests did to their context - stored
  values, recorded errors, parameters, abort state, status and length, a replaced writer or request - the
  handlers of every later request start from a pristine context.  The outcome and the context state observed
  by the k-th request of any history are the same as if it were the first request on a freshly built
  identical router."

  Model: Model/Dispatch.lean (`Ctx` = every field of the Go struct, `newCtx` = ctxPool.New, `init` = Init,
  `serve` = ServeHTTP with the pool as a list from which ANY element may be handed out, `runHist` = a history
  of requests and arbitrary losses from the pool).  Handlers are arbitrary action lists (Set, AddError,
  Params writes, Abort, status/body, replaced Resp/Req, panics, Next anywhere).

  clause                                                          theorem
  ------------------------------------------------------------------------------------------------------
  Init forgets everything a handler can observe                   C10_init_forgets, C10_init_forgets_all_fields
  … and what it leaves is the documented pristine state           C10_init_pristine
  one request on ANY pool = the same request on a fresh router    C10_serve_as_fresh
  the pool only ever holds this router's contexts                 C10_pool_invariant
  k-th request of any history = first request on a fresh router   C10_history   (whole outcome: returned or
      (histories mix every kind of request, incl. panicking        panicked + value, trace with every dump, writer
      ones with and without hook; any pool choice; GC losses)      log)
  the context state the first handler observes is pristine        C10_first_handler_pristine (explicit record)
  every struct field is reset in the SOURCE                       C10_all_fields_reset (`decide` over Generated/Facts)

  NOT proved here (see level_note in checks.json):
  * that the Go code is the model — sampled by the engines `ctx` and `panic`;
  * the route cache: the model has none, which is the claim "caching is unobservable"; it is checked by the
    `ctx` engine with caching on and off (incl. the F13 input: a handler writing into c.Params) and proved for
    the table model in C07;
  * the backing arrays that `Errors[:0]` / `handlers[:0]` keep (not observable through the Context API);
  * HandleContext (a caller-owned context is put into the pool while the caller may still use it — noted in
    DESIGN.md §7 as an observation outside the statement).
-/
namespace Rux
open Rux.Dispatch

/-- `Init` forgets: whatever state the pooled context is in, after `Init` a handler observes exactly what it
    would observe on a context that `ctxPool.New` has just made -/
theorem C10_init_forgets (c : Ctx) (rid w r : Nat) (h : c.router = rid) :
    (c.init w r).observe = ((newCtx rid).init w r).observe := by
  rw [init_eq, h]

/-- the same for ALL fields of the struct, observable or not -/
theorem C10_init_forgets_all_fields (c : Ctx) (rid w r : Nat) (h : c.router = rid) :
    c.init w r = (newCtx rid).init w r := by
  rw [init_eq, h]

/-- … and that observation is: no data, nil params, no errors, not aborted, status 0, nothing written,
    `Resp` = the context's own writer wrapping `w`, `Req` = `r` -/
theorem C10_init_pristine (c : Ctx) (w r : Nat) :
    (c.init w r).observe =
      { data := [], params := none, errors := [], aborted := false, status := 0, length := -1,
        resp := .own, req := .orig r, raw := some w, router := c.router } := rfl

/-- one request: whichever pooled context `sync.Pool` hands out (or a new one), the complete result —
    returned or panicked and with which value, the trace of everything the handlers did and saw, the
    calls that reached the response writers — is that of the first request on a fresh router -/
theorem C10_serve_as_fresh (cfg : Cfg) (pool : List Ctx) (pick : Option Nat) (rq : Req)
    (h : PoolOk cfg.rid pool) : (serve cfg pool pick rq).1 = serveFresh cfg rq := by
  have hr := (poolGet_router pick h).1
  simp only [serve]
  rw [init_eq (poolGet cfg.rid pool pick).1, hr]
  rfl

/-- the pool invariant is kept by every request (returned or panicked) and by losses -/
theorem C10_pool_invariant (cfg : Cfg) (pool : List Ctx) (pick : Option Nat) (rq : Req)
    (h : PoolOk cfg.rid pool) : PoolOk cfg.rid (serve cfg pool pick rq).2 := by
  obtain ⟨hr, hp⟩ := poolGet_router pick h
  simp only [serve]
  split
  · exact List.forall_mem_cons.mpr ⟨by rw [handleRequest_router, init_router, hr], hp⟩
  · exact hp

/-- every history: the k-th request's result is the result of the same request as the first one on a fresh
    identical router.  The history may start from ANY pool of this router's contexts (in whatever state earlier
    requests left them), may pick any pooled context or a new one for every request, and may lose pooled
    contexts at any time. -/
theorem C10_history (cfg : Cfg) (steps : List Step) (pool : List Ctx) (h : PoolOk cfg.rid pool) :
    (runHist cfg pool steps).1 = (Step.reqs steps).map (serveFresh cfg) := by
  induction steps generalizing pool with
  | nil => rfl
  | cons s rest ih =>
    cases s with
    | drop n =>
      exact ih _ (fun c hc => h c (List.mem_of_mem_eraseIdx hc))
    | req pick rq =>
      simp only [runHist, Step.reqs, List.map_cons]
      rw [C10_serve_as_fresh cfg pool pick rq h, ih _ (C10_pool_invariant cfg pool pick rq h)]

/-- the state that the first handler of ANY request of ANY history observes, stated outright: if the first
    handler of the chain begins by dumping its context, the first two events of the request's trace are
    "handler 0 starts" and the pristine observation — nothing of any earlier request, only what
    `handleHTTPRequest` itself stored for this request (route params, route name/path or allowed methods) -/
theorem C10_first_handler_pristine (cfg : Cfg) (pool : List Ctx) (pick : Option Nat) (rq : Req)
    (l : List Act) (rest : List Handler) (h : PoolOk cfg.rid pool)
    (hc : rq.chain = .acts (.s .dump :: l) :: rest) :
    ∃ tl, (serve cfg pool pick rq).1.trace = .enter 0 :: .obs (.h 0) (pristineObs cfg.rid rq) :: tl := by
  rw [C10_serve_as_fresh cfg pool pick rq h]
  simp only [serveFresh, serve, poolGet, Result.ofOut]
  have hh : (start rq ((newCtx cfg.rid).init rq.w rq.r)).ctx.handlers = .acts (.s .dump :: l) :: rest := hc
  -- handler 0 dumps first; everything after that only appends to the trace
  obtain ⟨tl, htl⟩ := ((loop_first_dump (start_index rq _ rfl) hh).trans
    (hc ▸ body_prefix cfg rq _)).trans (handleRequest_prefix cfg rq _)
  have hobs : ({ (start rq ((newCtx cfg.rid).init rq.w rq.r)).ctx with index := 0 } : Ctx).observe
      = pristineObs cfg.rid rq := by
    obtain ⟨w, r, kind, chain⟩ := rq
    cases kind <;> rfl
  exact ⟨tl, by rw [← htl, hobs]; rfl⟩

/-- read off the Go source on every run (go/extract): every field of `Context` except `router` is assigned in
    `Init`/`Reset` (`writer` through `writer.reset`), and every field of `responseWriter` is assigned in `reset`.
    A field added later that nobody resets makes this theorem fail. -/
theorem C10_all_fields_reset :
    (∀ f ∈ Facts.contextFields, f = "router" ∨ f ∈ Facts.contextFieldsReset) ∧
    (∀ f ∈ Facts.writerFields, f ∈ Facts.writerFieldsReset) := by
  decide

/-! ### non-vacuity: a dirty pool, a history with every kind of request -/

namespace C10Ex

/-- a context as a handler may leave it: data, errors, params, aborted, committed, Resp and Req replaced -/
def dirtyCtx : Ctx :=
  { req := .alt 9, resp := .alt 3, writer := { under := some 5, status := 500, length := 12 },
    params := some [([112], [101, 118, 105, 108])], errors := [[101]], index := 63, router := 7,
    data := [([107], .str [118])], handlers := [.acts [.next]] }

def exCfg : Cfg := { rid := 7, hook := some [.setStatus 500], onError := some [.emit 9] }

/-- leaves everything behind, then panics -/
def exDirty : Handler :=
  .acts [.s .dump, .s (.set [107] [118]), .s (.addError [101]), .s (.setParam [112] [120]), .s (.setStatus 201),
         .s (.write [98]), .s (.replaceResp 1), .s (.replaceReq 1), .s .abort, .next, .s (.panic (.str [33]))]

def exLook : Handler := .acts [.s .dump, .next]

def exReqs : List Req :=
  [ { w := 1, r := 1, kind := .route (some [([112], [97])]) [] [47, 100], chain := [exDirty, .acts []] },
    { w := 2, r := 2, kind := .notFound, chain := [exLook, default404] },
    { w := 3, r := 3, kind := .notAllowed [[71, 69, 84]], chain := [exLook, default405] } ]

example : PoolOk 7 [dirtyCtx] := by simp [PoolOk, dirtyCtx]

-- the dirty context really is observably dirty, and Init cleans it
example : dirtyCtx.observe ≠ ((newCtx 7).init 1 1).observe := by decide
example : (dirtyCtx.init 1 1).observe = ((newCtx 7).init 1 1).observe := rfl

-- the first request really panics and its context (hook installed) goes back to the pool in a dirty state
example : (serve exCfg [] none exReqs[0]).2.map (·.observe.aborted) = [true] := rfl
example : (serve exCfg [] none exReqs[0]).2.map (·.observe.resp) = [.alt 1] := rfl

-- the second request runs on that very context and observes the pristine state
example : ((runHist exCfg [dirtyCtx] [.req (some 0) exReqs[0], .req (some 0) exReqs[1], .drop 0, .req (some 5) exReqs[2]]).1.map
    (fun r => r.trace.take 2)) =
    [ [.enter 0, .obs (.h 0) (pristineObs 7 exReqs[0])],
      [.enter 0, .obs (.h 0) (pristineObs 7 exReqs[1])],
      [.enter 0, .obs (.h 0) (pristineObs 7 exReqs[2])] ] := rfl

end C10Ex

end Rux
