import RuxModel.Generated.Code
import RuxModel.Generated.Facts
import RuxModel.Lemmas.Rt
/-
  C16 on the code GENERATED from router.go `Router.Resource` (Generated/Code.lean, regenerated by go/go2lean on every
  check run).  The controller is what `reflect` shows of it (`GoRt.Ctrl`: kind, element kind, type name, methods by
  name), the router is the list of registration calls made on it (`GoRt.ResEv`: Group enter/leave, AddNamed, Route.Use);
  the closure handed to `Group` is translated in place.  The action table `RESTFulActions` is a Go map: it is the list
  of its pairs, visited in ANY order `ord`; the action names are the package-level variables as they stand (`an`).
-/
namespace Rux
open GoRt

namespace Tie

/-- the relative path `Resource` registers an action under -/
def resPath (an : ActNames) (name : Bytes) : Bytes :=
  if name = an.index ∨ name = an.store then [0x2F]
  else if name = an.create then [0x2F] ++ toLower name ++ [0x2F]
  else if name = an.edit then [0x7B, 0x69, 0x64, 0x7D, 0x2F] ++ toLower name ++ [0x2F]
  else [0x7B, 0x69, 0x64, 0x7D, 0x2F]

/-- what one entry of the action table contributes: nothing when the controller has no method of that name with the
    type `func(*Context)`; else ONE `AddNamed(res_action, path, action, methods...)`, followed by `route.Use(…)` exactly
    when `Uses()` has an entry for this action -/
def resRow (c : Ctrl) (an : ActNames) (uses : List (Bytes × List Nat)) (res : Bytes) (row : Bytes × List Bytes) : List ResEv :=
  if (c.method row.1).valid && (c.method row.1).isAction then
    [ResEv.addNamed (res ++ [0x5F] ++ toLower row.1) (resPath an row.1) row.2] ++
      (if (kvhGet uses row.1).2 then [ResEv.use (res ++ [0x5F] ++ toLower row.1) (kvhGet uses row.1).1] else [])
  else []

/-- the per-action middleware map: what `Uses()` returns when the controller has such a method of the right type -/
def usesOf (c : Ctrl) : List (Bytes × List Nat) :=
  if (c.method [0x55, 0x73, 0x65, 0x73]).valid then ((c.method [0x55, 0x73, 0x65, 0x73]).uses).getD [] else []

theorem forIn_append {α β : Type} (f : α → List β) (l : List α) (acc : List β) :
    forIn l acc (fun a acc => (.ok (.yield (acc ++ f a)) : Except Panic _)) = .ok (acc ++ l.flatMap f) :=
  (forIn_yield l (fun a acc => acc ++ f a) (fun _ _ _ => rfl) acc).trans (congrArg _ (List.foldl_append_eq_append ..))

theorem res_blk2 (base : Bytes) (c : Ctrl) (middles : List Nat) (an : ActNames) (actions : List (Bytes × List Bytes))
    (ord : List (Bytes × List Bytes) → List (Bytes × List Bytes)) (ev : List ResEv) (cv ct : Ctrl)
    (hf : List (Bytes × List Nat)) (res name : Bytes) (ms : List Bytes) (m1 : CMeth) (ok1 : Bool) (rn : Bytes) (ua ur : Unit) :
    Gen.Router.Resource.blk2 base c middles an actions ord ev cv ct hf res name ms m1 ua ok1 ur rn =
      (ev ++ [ResEv.addNamed rn (resPath an name) ms], ()) := by
  unfold Gen.Router.Resource.blk2 Gen.Router.Resource.blk4 Gen.Router.Resource.blk6 resPath
  -- the same tests on both sides: the call goes under the `if`s that choose its path
  simp only [Id.run, pure, Bool.or_eq_true, beq_iff_eq, apply_ite (fun p => (ev ++ [ResEv.addNamed rn p ms], ()))]

section row
variable (c : Ctrl) (an : ActNames) (uses : List (Bytes × List Nat)) (res : Bytes) (row : Bytes × List Bytes)

/-- the body of the loop over the action table, block 2 being `res_blk2`.  Stated on its text because the do-block of `Resource`
    holds the loop three times (copied into the branches of the two `if`s that set `handlerFuncs`): one `simp only` rewrites all -/
theorem resRow_step (ev : List ResEv) :
    (if (!(c.method row.1).valid) = true then (Except.ok (ForInStep.yield ev) : Except Panic _)
      else if (!(c.method row.1).isAction) = true then Except.ok (ForInStep.yield ev)
      else if (kvhGet uses row.1).2 = true then
        Except.ok (ForInStep.yield ((ev ++ [ResEv.addNamed (res ++ [95] ++ toLower row.1) (resPath an row.1) row.2]) ++
          [ResEv.use (res ++ [95] ++ toLower row.1) (kvhGet uses row.1).1]))
      else Except.ok (ForInStep.yield (ev ++ [ResEv.addNamed (res ++ [95] ++ toLower row.1) (resPath an row.1) row.2])))
    = .ok (.yield (ev ++ resRow c an uses res row)) := by
  unfold resRow
  cases (c.method row.1).valid
  · simp
  cases (c.method row.1).isAction
  · simp
  cases (kvhGet uses row.1).2 <;> simp

theorem mem_resRow (ev : ResEv) :
    ev ∈ resRow c an uses res row ↔
      ((c.method row.1).valid && (c.method row.1).isAction) = true ∧
        (ev = .addNamed (res ++ [0x5F] ++ toLower row.1) (resPath an row.1) row.2 ∨
          (kvhGet uses row.1).2 = true ∧ ev = .use (res ++ [0x5F] ++ toLower row.1) (kvhGet uses row.1).1) := by
  unfold resRow
  cases ((c.method row.1).valid && (c.method row.1).isAction)
  · simp
  cases (kvhGet uses row.1).2 <;> simp

end row

/-- **`Resource` as generated, in closed form** (a pointer to a struct) -/
theorem resource_eq (base : Bytes) (c : Ctrl) (middles : List Nat) (an : ActNames) (actions : List (Bytes × List Bytes))
    (ord : List (Bytes × List Bytes) → List (Bytes × List Bytes)) (hk : c.kind = 22) (he : c.elemKind = 25) :
    Gen.Router.Resource base c middles an actions ord =
      .ok ([ResEv.groupEnter (base ++ toLower c.typeName) middles] ++
           (ord actions).flatMap (resRow c an (usesOf c) (toLower c.typeName)) ++ [ResEv.groupLeave]) := by
  unfold Gen.Router.Resource
  have h1 : (c.kind != (22 : Int)) = false := by simp [hk]
  have h2 : (c.elemKind != (25 : Int)) = false := by simp [he]
  simp only [bind, Except.bind, pure, Except.pure, h1, h2, Bool.false_eq_true, if_false, res_blk2, List.nil_append,
    resRow_step, forIn_append]
  unfold usesOf
  -- however `Uses()` answers, `handlerFuncs` is `usesOf c`
  cases (c.method [85, 115, 101, 115]).valid <;> cases (c.method [85, 115, 101, 115]).uses <;> rfl

end Tie
open Tie

/-- the action names and the action table as they stand in rux.go (go/extract reads them into `Facts.restfulActions`;
    the check below compares) -/
def Tie.docNames : ActNames :=
  { index := [73, 110, 100, 101, 120], create := [67, 114, 101, 97, 116, 101], store := [83, 116, 111, 114, 101],
    show_ := [83, 104, 111, 119], edit := [69, 100, 105, 116], update := [85, 112, 100, 97, 116, 101],
    delete := [68, 101, 108, 101, 116, 101] }

def Tie.docActions : List (Bytes × List Bytes) :=
  [([67, 114, 101, 97, 116, 101], [[71, 69, 84]]), ([68, 101, 108, 101, 116, 101], [[68, 69, 76, 69, 84, 69]]),
   ([69, 100, 105, 116], [[71, 69, 84]]), ([73, 110, 100, 101, 120], [[71, 69, 84]]), ([83, 104, 111, 119], [[71, 69, 84]]),
   ([83, 116, 111, 114, 101], [[80, 79, 83, 84]]), ([85, 112, 100, 97, 116, 101], [[80, 85, 84], [80, 65, 84, 67, 72]])]

#guard Tie.docActions == Facts.restfulActions.map fun r => (Bytes.ofString r.1, r.2.map Bytes.ofString)
#guard Tie.docNames.index == Bytes.ofString "Index" && Tie.docNames.create == Bytes.ofString "Create" &&
  Tie.docNames.store == Bytes.ofString "Store" && Tie.docNames.show_ == Bytes.ofString "Show" &&
  Tie.docNames.edit == Bytes.ofString "Edit" && Tie.docNames.update == Bytes.ofString "Update" &&
  Tie.docNames.delete == Bytes.ofString "Delete"

/-- **a controller that is not a pointer, or a pointer to something that is not a struct, is rejected** (a panic
    before anything is registered) -/
theorem C16_gen_rejects (base : Bytes) (c : Ctrl) (middles : List Nat) (an : ActNames) (actions : List (Bytes × List Bytes))
    (ord : List (Bytes × List Bytes) → List (Bytes × List Bytes)) (h : c.kind ≠ 22 ∨ c.elemKind ≠ 25) :
    ∃ e, Gen.Router.Resource base c middles an actions ord = .error e := by
  unfold Gen.Router.Resource
  by_cases hk : c.kind ≠ 22
  · rw [if_pos (bne_iff_ne.mpr hk)]; exact ⟨_, rfl⟩
  · rw [if_neg (mt bne_iff_ne.mp hk), if_pos (bne_iff_ne.mpr (h.resolve_left hk))]; exact ⟨_, rfl⟩

/-- **exactly the rows of the implemented actions, and nothing else**: every registration `Resource` makes is the row of
    an entry of the action table whose action the controller implements (a method of that name with the type
    `func(*Context)`), and every such entry has its row; all of it inside ONE group under `basePath + lower(type name)` -/
theorem C16_gen_exact (base : Bytes) (c : Ctrl) (middles : List Nat) (an : ActNames) (actions : List (Bytes × List Bytes))
    (ord : List (Bytes × List Bytes) → List (Bytes × List Bytes)) (hk : c.kind = 22) (he : c.elemKind = 25)
    (hperm : (ord actions).Perm actions) :
    ∃ evs, Gen.Router.Resource base c middles an actions ord =
        .ok ([ResEv.groupEnter (base ++ toLower c.typeName) middles] ++ evs ++ [ResEv.groupLeave]) ∧
      ∀ name path ms, ResEv.addNamed name path ms ∈ evs ↔
        ∃ row ∈ actions, ((c.method row.1).valid && (c.method row.1).isAction) = true ∧
          name = toLower c.typeName ++ [0x5F] ++ toLower row.1 ∧ path = resPath an row.1 ∧ ms = row.2 := by
  refine ⟨_, resource_eq base c middles an actions ord hk he, fun name path ms => ?_⟩
  simp only [List.mem_flatMap, mem_resRow, hperm.mem_iff, ResEv.addNamed.injEq, reduceCtorEq, and_false, or_false]

-- `base`, `middles`, `hk`, `he` are not used: the statement speaks of the rows (`resRow`), not of `Resource`
set_option linter.unusedVariables false in
/-- **per-action middleware only on its action**: a `route.Use(handlers…)` call is made for the route of action `a`
    exactly when `Uses()` has an entry for `a` (and the controller implements `a`), with exactly those handlers -/
theorem C16_gen_uses_local (base : Bytes) (c : Ctrl) (middles : List Nat) (an : ActNames) (actions : List (Bytes × List Bytes))
    (ord : List (Bytes × List Bytes) → List (Bytes × List Bytes)) (hk : c.kind = 22) (he : c.elemKind = 25)
    (hperm : (ord actions).Perm actions) (rn : Bytes) (hs : List Nat) :
    ResEv.use rn hs ∈ (ord actions).flatMap (resRow c an (usesOf c) (toLower c.typeName)) ↔
      ∃ row ∈ actions, ((c.method row.1).valid && (c.method row.1).isAction) = true ∧
        (kvhGet (usesOf c) row.1).2 = true ∧ rn = toLower c.typeName ++ [0x5F] ++ toLower row.1 ∧
        hs = (kvhGet (usesOf c) row.1).1 := by
  simp only [List.mem_flatMap, mem_resRow, hperm.mem_iff, ResEv.use.injEq, reduceCtorEq, false_or]

/-- **the documented table**: with the action names and the action table of rux.go, the seven rows are
    `/` (index, store), `/create/`, `{id}/edit/`, `{id}/` (show, update, delete) below the group prefix — after path
    normalisation GET /res, GET /res/create, POST /res, GET /res/{id}, GET /res/{id}/edit, PUT+PATCH /res/{id},
    DELETE /res/{id} — with the methods of the table and the names `res_<action>` -/
theorem C16_gen_table :
    docActions.map (fun row => (toLower row.1, resPath docNames row.1, row.2)) =
      [ ([99, 114, 101, 97, 116, 101], [47, 99, 114, 101, 97, 116, 101, 47], [[71, 69, 84]]),
        ([100, 101, 108, 101, 116, 101], [123, 105, 100, 125, 47], [[68, 69, 76, 69, 84, 69]]),
        ([101, 100, 105, 116], [123, 105, 100, 125, 47, 101, 100, 105, 116, 47], [[71, 69, 84]]),
        ([105, 110, 100, 101, 120], [47], [[71, 69, 84]]),
        ([115, 104, 111, 119], [123, 105, 100, 125, 47], [[71, 69, 84]]),
        ([115, 116, 111, 114, 101], [47], [[80, 79, 83, 84]]),
        ([117, 112, 100, 97, 116, 101], [123, 105, 100, 125, 47], [[80, 85, 84], [80, 65, 84, 67, 72]]) ] := by
  rfl

/-- **C12 (Controller registrations)**: `Router.Controller(base, ctrl, mw…)` is exactly ONE `Group(base, …, mw…)` whose
    body is `ctrl.AddRoutes(r)` — nothing is registered outside that group, and the group is left again afterwards
    (what `Group` guarantees about prefix and middleware — `C12_gen_group`, `C12_gen_group_restores` — therefore holds
    for everything a controller registers) -/
theorem C12_gen_controller (base : Bytes) (ctrl : Nat) (mw : List Nat) :
    Gen.Router.Controller base ctrl mw = [.groupEnter base mw, .addRoutes ctrl, .groupLeave] := rfl

end Rux
