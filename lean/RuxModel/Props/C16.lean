import RuxModel.Lemmas.Rest
import RuxModel.Generated.Facts
/-
  C16 — Resource registers exactly the documented REST table for the controller.

  Model: `Stmt.resource` in Model/Reg.lean (`restRoutes`: the loop of `Router.Resource` over the map
  `RESTFulActions`, whose iteration order is the parameter `rd.order`), `docTable`/`docRows`/`lookup`
  in Model/Rest.lean.  A controller is its method set `rd.impl` (any list of actions = any subset of
  the seven), its optional `Uses()` map `rd.uses`, and what `reflect` says about its kind.

  Clause of the statement                                          theorem
  --------------------------------------------------------------   ------------------------------
  the action table of the code is the documented one               C16_table (over Generated/Facts)
  for exactly the implemented actions the documented               C16_exact (every subset, every
  method/path/name triple, and nothing else                        iteration order), C16_accepts
  Uses() middleware is attached only to its action                 C16_uses_local
  GET /res/create is served by create and never by show            C16_create_not_show
  a non-pointer or non-struct controller is rejected               C16_reject

  Hypotheses: `RestPaths cfg G` — what formatPath/simpleFmtPath do with the four relative paths used
  by `Resource` under the group prefix `G` (discharged for the driver's path functions and every
  clean `G` by `restPaths_clean`; for the Go functions it is C11's business and is sampled by the
  `rest` engine on the base paths "/", "/api/", "/v1.0/").
  NOT proved here: `C16_reachability` for arbitrary probe paths (needs the general table model, C01);
  the `rest` engine samples it with all 9 methods × probe paths against `Rest.resolve`.
-/
namespace Rux
open Reg

/-- `RESTFulActions` as extracted from rux.go is the documented method table, and the documented
    table lists each of the seven actions once with the methods/names the model uses. -/
theorem C16_table :
    Facts.restfulActions.length = 7 ∧
    (∀ a, a ∈ Action.all → Facts.restfulActions.lookup a.goName = some a.methods) ∧
    docTable.map (·.1) = Action.all ∧
    (∀ row, row ∈ docTable → row.2.1 = row.1.methods ∧ row.2.2.2 = row.1.lname) := by decide +kernel

/-- For every controller shape (`rd.impl`: any subset of the seven actions), every `Uses()` map,
    every group middleware and EVERY iteration order of the action map (`rd.order`: any permutation of
    the seven actions), a successful `Resource` call adds routes whose (methods, path, name) triples
    are exactly the documented rows of the implemented actions — no row missing, none extra, none
    twice — under the prefix `G` = current prefix + formatted (base path + lower-cased type name). -/
theorem C16_exact (cfg : Cfg) (st st' : RS) (rd : ResDef) (mws : List H)
    (hord : rd.order.Perm Action.all)
    (hp : RestPaths cfg (st.pfx ++ cfg.fmt (rd.base ++ rd.resName)))
    (h : exec cfg st (.resource rd mws) = .ok st') :
    ∃ new, st'.routes = st.routes ++ new ∧
      (new.map Route.triple).Perm
        (docRows (st.pfx ++ cfg.fmt (rd.base ++ rd.resName)) rd.resName (Action.all.filter fun a => decide (a ∈ rd.impl))) := by
  refine ⟨_, resource_routes h, ?_⟩
  simp only [docRows_eq, List.map_map, Function.comp_def, triple_mkRoute (enterScope cfg st.toScope _ mws) hp rd]
  apply List.Perm.map
  refine (hord.filter _).trans (.of_eq (List.filter_congr fun x hx => ?_))
  simp [hx]

/-- a valid controller is accepted whenever no route reaches the handler limit -/
theorem C16_accepts (cfg : Cfg) (st : RS) (rd : ResDef) (mws : List H) (hk : rd.kind = .ptrStruct)
    (hl : ∀ r, r ∈ (den cfg st.toScope (.resource rd mws)).1 → r.handlers.length < cfg.limit) :
    ∃ st', exec cfg st (.resource rd mws) = .ok st' :=
  ⟨_, exec_total cfg st (.resource rd mws) (by simp [okCtrl, hk]) hl⟩

/-- The route of action `a` carries the group handlers in effect, the `middles` of the call and
    exactly `Uses()[a]` — the per-action middleware of no other action. -/
theorem C16_uses_local (cfg : Cfg) (st st' : RS) (rd : ResDef) (mws : List H)
    (h : exec cfg st (.resource rd mws) = .ok st') :
    st'.routes = st.routes ++
      (rd.order.filter fun a => decide (a ∈ rd.impl)).map fun a =>
        { id := rd.rid + a.idx, main := rd.rid + a.idx
          name := rd.resName ++ ascii "_" ++ ascii a.lname
          methods := a.methods.map ascii
          path := storedPath cfg (st.pfx ++ cfg.fmt (rd.base ++ rd.resName)) (ascii a.relPath)
          handlers := st.grp ++ mws ++ (rd.uses.lookup a).getD [] } := by
  rw [resource_routes h]
  refine congrArg _ (List.map_congr_left fun a _ => ?_)
  simp only [mkRoute, restDef, enterScope_eq]
  cases rd.uses.lookup a <;> simp

/-- `GET G/create` is a static entry that only the create route owns, and static entries are looked
    up before any dynamic route: whatever the registration order, the request is served by create —
    never by show's `G/{id}`. -/
theorem C16_create_not_show (cfg : Cfg) (st st' : RS) (rd : ResDef) (mws : List H)
    (hord : rd.order.Perm Action.all) (hc : Action.aCreate ∈ rd.impl)
    (hp : RestPaths cfg (st.pfx ++ cfg.fmt (rd.base ++ rd.resName)))
    (hG : isFixed (st.pfx ++ cfg.fmt (rd.base ++ rd.resName)) = true)
    (hst : st.routes = [])
    (h : exec cfg st (.resource rd mws) = .ok st') :
    ∃ r, lookup st'.routes (ascii "GET") (st.pfx ++ cfg.fmt (rd.base ++ rd.resName) ++ ascii "/create") = some r ∧
      r.id = rd.rid + Action.aCreate.idx := by
  have _ := hst   -- not needed: `resource_serves_create` holds whatever was registered before
  exact ⟨_, resource_serves_create hord hc hp hG h, rfl⟩

/-- a controller that is not a pointer, or a pointer to something that is not a struct, is rejected
    (the call panics) and nothing is registered -/
theorem C16_reject (cfg : Cfg) (st : RS) (rd : ResDef) (mws : List H) (hk : rd.kind ≠ .ptrStruct) :
    exec cfg st (.resource rd mws) = .error .badController := by
  simp [exec, hk]

/-! ### non-vacuity -/

namespace C16ex
def base : Bytes := ascii "/api/"
def res : Bytes := ascii "photo"
/-- a controller with Create, Show, Update and Delete; map order: Delete, Show, Index, Update, Edit, Create, Store -/
def rd : ResDef :=
  { kind := .ptrStruct, base := base, resName := res
    impl := [.aCreate, .aShow, .aUpdate, .aDelete]
    uses := [(.aShow, [7]), (.aIndex, [8])]
    order := [.aDelete, .aShow, .aIndex, .aUpdate, .aEdit, .aCreate, .aStore], rid := 100 }
def triples (r : Except Err RS) : List (List Bytes × Bytes × Bytes × List H) :=
  match r with
  | .ok st => st.routes.map fun r => (r.methods, r.path, r.name, r.handlers)
  | .error _ => []
end C16ex

open C16ex in
example : triples (exec (cleanCfg 63) RS.init (.resource rd [5])) =
    [ ([ascii "DELETE"], ascii "/api/photo/{id}", ascii "photo_delete", [5]),
      ([ascii "GET"], ascii "/api/photo/{id}", ascii "photo_show", [5, 7]),
      ([ascii "PUT", ascii "PATCH"], ascii "/api/photo/{id}", ascii "photo_update", [5]),
      ([ascii "GET"], ascii "/api/photo/create", ascii "photo_create", [5]) ] := by
  repeat rw [ascii_ofList]
  decide +kernel

open C16ex in
example : rd.order.Perm Action.all ∧ CleanPath (ascii "/api/photo") ∧ isFixed (ascii "/api/photo") = true := by
  rw [ascii_ofList]
  decide

/-- the path hypothesis is satisfiable: the driver's functions meet it under every clean prefix -/
example (G : Bytes) (hG : CleanPath G) : RestPaths (cleanCfg 63) G := restPaths_clean 63 G hG

end Rux
