import RuxModel.Props.C09Gen
import RuxModel.Props.C05Gen
import RuxModel.Props.C10Gen
/-
  C04 / C05 on the generated dispatch COMPOSED with the generated `Next` loop: the `ctx.Next()` inside the generated
  `handleHTTPRequest` is the generated `Ctx.Next` (context.go), running handlers that the chain model reads
  (`Tie.modelCall`: action lists, nested `Next()` answered by the chain model).  Then the trace of a request is the
  onion of exactly `chainFor`: global middleware → the route's middleware → the main handler (resp. the 405 / 404
  handlers), each handler's code before its `Next()` in this order and the code after it in reverse order.
-/
namespace Rux
open GoRt Tie Chain

variable {σ ρ : Type}

/-- `ctx.Next()` of the dispatcher := the generated loop over the chain that `SetHandlers` installed. Out of fuel reads
    as "returned, context unchanged"; under the hypotheses of `C04_gen_dispatch_onion` the fuel suffices
    (`C05_gen_run_is_onion`). -/
def Tie.nextByGen (s : σ) (c : GCtx) (chain : List Handler) : σ × GCtx × Option Panic :=
  match Gen.Ctx.Next c (modelCall chain) (chain.length + 1) with
  | .ok (some c') => (s, c', none)
  | .ok none => (s, c, none)
  | .error p => (s, c, some p)

/-- **the trace of a dispatched request** (generated `handleHTTPRequest`, its `Next()` = the generated loop): for
    whatever QuickMatch answered (`route`, `params`, `allowed`; no panic), on a context as `Init` leaves it
    (cursor -1, trace empty) and a chain within the documented limit, the body ends without panic in
    `afterChain` of a context whose trace is the onion of `chainFor` — global middleware first, main handler last. -/
theorem C04_gen_dispatch_onion (env : HEnv σ ρ Handler GCtx) (g : Gen.Router) (ctx : GCtx) (s s1 : σ)
    (route : Option ρ) (params : Option KV) (allowed : List Bytes)
    (hnext : env.next = nextByGen)
    (hq : matchOf env g ctx s = (s1, route, params, allowed, none))
    (hi : ctx.index = -1) (hg : ctx.ghost = [])
    (hlen : ((chainFor env s1 route allowed).length : Int) ≤ Facts.abortIndex) :
    ∃ c, bodySpec env g ctx s = afterChain env (s1, c, none) ∧
      c.ghost = (onion 0 (chainFor env s1 route allowed)).1 ∧
      c.index = (if (onion 0 (chainFor env s1 route allowed)).2 then Chain.abortIndex
                 else ((chainFor env s1 route allowed).length : Int) - 1) := by
  rw [C04_gen_dispatch_chain env g ctx s s1 route params allowed hq, hnext]
  obtain ⟨hpi, hpg⟩ := preludeCtx_index_ghost env ctx (reqPath env g ctx) route params allowed
  obtain ⟨c, hc, htr, hidx⟩ := C05_gen_run_is_onion (chainFor env s1 route allowed) hlen
    ((preludeCtx env ctx (reqPath env g ctx) route params allowed).set_handlers
      ((chainFor env s1 route allowed).map fun _ => ()))
    (hpi.trans hi) (hpg.trans hg) (List.length_map _)
  refine ⟨c, ?_, htr, hidx⟩
  unfold nextByGen
  rw [hc]

/-! ### the whole request: `ServeHTTP` as generated, its `handleHTTPRequest` the generated one -/

variable {η γ : Type}

def Tie.serveEnv (g : Gen.Router) (henv : HEnv σ ρ η (Gen.Ctx γ)) (get : σ → σ × Gen.Ctx γ) (put : σ → Gen.Ctx γ → σ) :
    PEnv σ (Gen.Ctx γ) :=
  { poolGet := get, poolPut := put, handle := fun s c => Gen.Router.handleHTTPRequest g c henv s }

/-- **one request, end to end, on generated code only**: `ServeHTTP` takes SOME context from the pool, `Init`
    makes it pristine (`C10_gen_init_pristine`), the dispatcher is the closed form `handleSpec` on it (deferred recover,
    QuickMatch, prelude, chain, OnError, commit), and the context goes back to the pool exactly when the dispatcher
    returned — a panic that escapes (no OnPanic hook, or a hook that panics) leaves the pool without it. -/
theorem C10_gen_request_pipeline (g : Gen.Router) (req : Option Nat) (henv : HEnv σ ρ η (Gen.Ctx γ))
    (get : σ → σ × Gen.Ctx γ) (put : σ → Gen.Ctx γ → σ) (s : σ) :
    Gen.Router.ServeHTTP g () req (serveEnv g henv get put) s =
      match handleSpec henv g (Gen.Ctx.Init (get s).2 () req) (get s).1 with
      | (s2, _, some p) => (s2, some p)
      | (s2, c2, none) => (put s2 c2, none) := by
  rw [C10_gen_serveHTTP]
  simp only [serveEnv, gen_handle_eq_spec]
  rcases handleSpec henv g (Gen.Ctx.Init (get s).2 () req) (get s).1 with ⟨s2, c2, _ | p⟩ <;> rfl

/-- … and its outcome does not depend on which pooled context it got (C03 / C10, end to end) -/
theorem C03_gen_request_pool_choice_irrelevant (g : Gen.Router) (req : Option Nat) (henv : HEnv σ ρ η (Gen.Ctx γ))
    (put : σ → Gen.Ctx γ → σ) (s1 : σ) (c c' : Gen.Ctx γ) (hg : c.ghost = c'.ghost) :
    Gen.Router.ServeHTTP g () req (serveEnv g henv (fun _ => (s1, c)) put) s1 =
      Gen.Router.ServeHTTP g () req (serveEnv g henv (fun _ => (s1, c')) put) s1 :=
  C10_gen_serve_forgets g req s1 c c' _ put hg

end Rux
