import RuxModel.Tie.Handle
import RuxModel.Model.Dispatch
import RuxModel.Props.C08Gen
/-
  C04 / C05 / C08 / C09 / C10 on the code GENERATED from dispatch.go `Router.handleHTTPRequest` (Generated/Code.lean,
  regenerated by go/go2lean on every check run).  The generated definition is the dispatch skeleton — deferred
  recover when OnPanic is set, request path, QuickMatch, context prelude and chain by kind of result
  (global ++ route/405/404 handlers ++ main handler), Next, OnError when errors were recorded, the final commit
  through the generated `ensureWriteHeader` — over an environment (`GoRt.HEnv`) of operations that return the new
  context and possibly a panic: `QuickMatch`, the chain run behind `Next()`, the two hooks.

  `Tie.gen_handle_eq_spec` proves that the generated definition equals the closed form `Tie.handleSpec` for EVERY
  environment; the theorems below read the properties off the closed form, so they hold for the generated code
  whatever the handlers and hooks do.  A change of the Go function changes the generated definition; unless the change
  is a refactoring that the block lemmas of Tie/Handle.lean absorb, the equality stops checking.
-/
namespace Rux
open GoRt Tie

variable {σ ρ η γ : Type}

/-! ### C04: which chain runs -/

/-- **The chain that `Next()` runs** (QuickMatch answered `route, params, allowed` without panicking): exactly
    `chainFor` — the global middleware, then for a matched route its own handlers and its main handler LAST, else the
    NotAllowed resp. NotFound handlers (the defaults when none are configured) — on the context with the prelude values
    and one handler slot per chain element; the outcome of the body is the outcome of that run followed by
    `afterChain` (OnError only when it is set and errors were recorded; then the commit). -/
theorem C04_gen_dispatch_chain (env : HEnv σ ρ η (Gen.Ctx γ)) (g : Gen.Router) (ctx : Gen.Ctx γ) (s : σ)
    (s1 : σ) (route : Option ρ) (params : Option KV) (allowed : List Bytes)
    (hq : matchOf env g ctx s = (s1, route, params, allowed, none)) :
    bodySpec env g ctx s =
      afterChain env (env.next s1
        ((preludeCtx env ctx (reqPath env g ctx) route params allowed).set_handlers
          ((chainFor env s1 route allowed).map (fun _ => ())))
        (chainFor env s1 route allowed)) := by
  unfold matchOf reqPath at hq
  simp only [bodySpec, hq, choose_ctx, choose_chain, reqPath]

/-- a panic inside QuickMatch ends the body before any handler runs -/
theorem C04_gen_dispatch_match_panics (env : HEnv σ ρ η (Gen.Ctx γ)) (g : Gen.Router) (ctx : Gen.Ctx γ) (s : σ)
    (s1 : σ) (route : Option ρ) (params : Option KV) (allowed : List Bytes) (p : Panic)
    (hq : matchOf env g ctx s = (s1, route, params, allowed, some p)) :
    bodySpec env g ctx s = (s1, ctx, some p) := by
  unfold matchOf reqPath at hq
  simp only [bodySpec, hq]

/-- for a matched route the chain is: global middleware, the route's handlers, the main handler last -/
theorem C04_gen_dispatch_chain_route (env : HEnv σ ρ η (Gen.Ctx γ)) (s : σ) (r : ρ) (allowed : List Bytes) (h : η)
    (hm : env.routeHandler (some r) = some h) :
    chainFor env s (some r) allowed = env.globalHandlers s ++ env.routeHandlers (some r) ++ [h] := by
  simp [chainFor, hm]

/-- no route, other methods allowed: global middleware, then the configured NotAllowed handlers (the default ones
    when none are configured); no main handler -/
theorem C04_gen_dispatch_chain_405 (env : HEnv σ ρ η (Gen.Ctx γ)) (s : σ) (allowed : List Bytes) (h : allowed ≠ []) :
    chainFor env s none allowed = env.globalHandlers s ++ orDefault (env.noAllowed s) env.default405 := by
  have : 0 < allowed.length := List.length_pos_iff.mpr h
  simp [chainFor, this]

theorem C04_gen_dispatch_chain_404 (env : HEnv σ ρ η (Gen.Ctx γ)) (s : σ) :
    chainFor env s none [] = env.globalHandlers s ++ orDefault (env.noRoute s) env.default404 := by
  simp [chainFor]

/-! ### C10: what the chain sees of the match -/

/-- a matched route: the chain's context carries exactly the parameters of THIS match and the route's name and the
    request path under the documented keys; everything else of the context is what `Init` left -/
theorem C10_gen_dispatch_prelude_route (env : HEnv σ ρ η (Gen.Ctx γ)) (ctx : Gen.Ctx γ) (path : Bytes) (r : ρ)
    (params : Option KV) (allowed : List Bytes) :
    let c := preludeCtx env ctx path (some r) params allowed
    c.params = params ∧ c.index = ctx.index ∧ c.writer = ctx.writer ∧ c.req = ctx.req ∧ c.errors = ctx.errors ∧
    c.data = dataSet (dataSet ctx.data keyRouteName (.str (env.routeName (some r)))) keyRoutePath (.str path) :=
  ⟨rfl, rfl, rfl, rfl, rfl, rfl⟩

/-- no route: the parameters of the context are untouched (those `Init` set: none); only the allowed methods are
    stored when there are any -/
theorem C10_gen_dispatch_prelude_noroute (env : HEnv σ ρ η (Gen.Ctx γ)) (ctx : Gen.Ctx γ) (path : Bytes)
    (params : Option KV) (allowed : List Bytes) :
    let c := preludeCtx env ctx path none params allowed
    c.params = ctx.params ∧ c.index = ctx.index ∧ c.writer = ctx.writer ∧ c.req = ctx.req ∧ c.errors = ctx.errors ∧
    c.data = if allowed = [] then ctx.data else dataSet ctx.data keyAllowed (.strs allowed) := by
  cases allowed <;> simp [preludeCtx]

/-! ### C05: OnError -/

/-- OnError does not run when it is not set or the chain left no errors: the body is the chain run and the commit -/
theorem C05_gen_dispatch_onError_skipped (env : HEnv σ ρ η (Gen.Ctx γ)) (s2 : σ) (c2 : Gen.Ctx γ)
    (hno : env.onErrorH s2 = none ∨ c2.errors = []) :
    afterChain env (s2, c2, none) = (s2, commit c2, none) := by
  rcases hno with h | h <;> simp [afterChain, h]

/-- OnError runs (once, after the whole chain) when it is set and errors were recorded; the commit follows it -/
theorem C05_gen_dispatch_onError_runs (env : HEnv σ ρ η (Gen.Ctx γ)) (s2 s3 : σ) (c2 c3 : Gen.Ctx γ) (h : η)
    (hs : env.onErrorH s2 = some h) (he : c2.errors ≠ []) (hr : env.onError s2 c2 = (s3, c3, none)) :
    afterChain env (s2, c2, none) = (s3, commit c3, none) := by
  have : 0 < c2.errors.length := List.length_pos_iff.mpr he
  simp [afterChain, hs, hr, this]

/-- a panic of the chain: no OnError, no commit by the body — the state the panic left is the body's result (and goes
    to the OnPanic hook, `C09_gen_recover`) -/
theorem C09_gen_nothing_after_panic (env : HEnv σ ρ η (Gen.Ctx γ)) (s2 : σ) (c2 : Gen.Ctx γ) (v : Panic) :
    afterChain env (s2, c2, some v) = (s2, c2, some v) := rfl

/-! ### C08: the response is committed -/

theorem Tie.afterChain_commits (env : HEnv σ ρ η (Gen.Ctx γ)) (n : σ × Gen.Ctx γ × Option Panic)
    (h : (afterChain env n).2.2 = none) : ∃ c, (afterChain env n).2.1 = commit c := by
  obtain ⟨s2, c2, _ | v⟩ := n
  · revert h
    unfold afterChain
    cases (env.onErrorH s2).isSome && decide ((c2.errors.length : Int) > 0)
    · exact fun _ => ⟨c2, rfl⟩
    · rcases env.onError s2 c2 with ⟨s3, c3, _ | v⟩
      · exact fun _ => ⟨c3, rfl⟩
      · intro h
        cases h
  · cases h

theorem Tie.bodySpec_commits (env : HEnv σ ρ η (Gen.Ctx γ)) (g : Gen.Router) (ctx : Gen.Ctx γ) (s : σ)
    (h : (bodySpec env g ctx s).2.2 = none) : ∃ c, (bodySpec env g ctx s).2.1 = commit c := by
  rcases hq : matchOf env g ctx s with ⟨s1, route, params, allowed, _ | p⟩
  · rw [C04_gen_dispatch_chain env g ctx s _ _ _ _ hq] at h ⊢
    exact afterChain_commits env _ h
  · rw [C04_gen_dispatch_match_panics env g ctx s _ _ _ _ p hq] at h
    cases h

/-- the commit goes through the translated `ensureWriteHeader`: nothing when the handlers already committed (no second
    status line), else the status they chose, 200 when none -/
theorem C08_gen_dispatch_commit_is_ensure (c : Gen.Ctx γ) :
    (commit c).writer = Gen.RW.ensureWriteHeader c.writer ∧ (commit c).params = c.params ∧ (commit c).data = c.data := by
  simp [commit, Gen.Ctx.set_writer]

/-! ### C09: the deferred recover -/

/-- **Hook installed, the body panics** (anywhere: in QuickMatch, in a handler of the chain, in OnError): the hook
    runs on the state the panic left, with the recovered value stored under `CTXRecoverResult`; when the hook returns,
    `handleHTTPRequest` RETURNS (no panic escapes) with the response committed. -/
theorem C09_gen_recover (env : HEnv σ ρ η (Gen.Ctx γ)) (g : Gen.Router) (ctx : Gen.Ctx γ) (s : σ) (hk : η)
    (s1 s2 : σ) (c1 c2 : Gen.Ctx γ) (v : Panic)
    (hh : env.onPanicH s = some hk) (hb : bodySpec env g ctx s = (s1, c1, some v))
    (hr : env.onPanic s1 (c1.set_data (dataSet c1.data keyRecover (.pv v))) = (s2, c2, none)) :
    Gen.Router.handleHTTPRequest g ctx env s = (s2, commit c2, none) := by
  rw [gen_handle_eq_spec]
  simp [handleSpec, hh, hb, hr]

/-- the value is where the documentation says: `ctx.Get(CTXRecoverResult)` inside the hook is the panic value -/
theorem C09_gen_recover_value (c : Gen.Ctx γ) (v : Panic) :
    (c.set_data (dataSet c.data keyRecover (.pv v))).data = dataSet c.data keyRecover (.pv v) := rfl

-- the keys of the generated code (constants folded by go/types) are the documented ones that go/extract reads from
-- context.go (evaluated checks, as in Lemmas/Bind.lean: `String.toUTF8` does not reduce in the kernel)
#guard Tie.keyRecover == Dispatch.keyRecover
#guard Tie.keyRouteName == Dispatch.keyRouteName
#guard Tie.keyRoutePath == Dispatch.keyRoutePath
#guard Tie.keyAllowed == Dispatch.keyAllowed

/-- a hook that panics itself is not contained: its panic propagates (Go: a panic in a deferred function) -/
theorem C09_gen_hook_panics (env : HEnv σ ρ η (Gen.Ctx γ)) (g : Gen.Router) (ctx : Gen.Ctx γ) (s : σ) (hk : η)
    (s1 s2 : σ) (c1 c2 : Gen.Ctx γ) (v v' : Panic)
    (hh : env.onPanicH s = some hk) (hb : bodySpec env g ctx s = (s1, c1, some v))
    (hr : env.onPanic s1 (c1.set_data (dataSet c1.data keyRecover (.pv v))) = (s2, c2, some v')) :
    Gen.Router.handleHTTPRequest g ctx env s = (s2, c2, some v') := by
  rw [gen_handle_eq_spec]
  simp [handleSpec, hh, hb, hr]

/-- **Without a hook the panic propagates unchanged** (and nothing else differs: the dispatch is the body) -/
theorem C09_gen_no_hook_propagates (env : HEnv σ ρ η (Gen.Ctx γ)) (g : Gen.Router) (ctx : Gen.Ctx γ) (s : σ)
    (hh : env.onPanicH s = none) :
    Gen.Router.handleHTTPRequest g ctx env s = bodySpec env g ctx s := by
  rw [gen_handle_eq_spec]
  simp [handleSpec, hh]

/-- the hook does not run when nothing panicked: with or without a hook, a body that returns is the result -/
theorem C09_gen_hook_only_on_panic (env : HEnv σ ρ η (Gen.Ctx γ)) (g : Gen.Router) (ctx : Gen.Ctx γ) (s : σ)
    (hb : (bodySpec env g ctx s).2.2 = none) :
    Gen.Router.handleHTTPRequest g ctx env s = bodySpec env g ctx s := by
  rw [gen_handle_eq_spec]
  unfold handleSpec
  simp only [hb]
  cases (env.onPanicH s).isSome <;> rfl

theorem Tie.gen_handle_commits (env : HEnv σ ρ η (Gen.Ctx γ)) (g : Gen.Router) (ctx : Gen.Ctx γ) (s : σ)
    (h : (Gen.Router.handleHTTPRequest g ctx env s).2.2 = none) :
    ∃ c, (Gen.Router.handleHTTPRequest g ctx env s).2.1 = commit c := by
  rcases hb : bodySpec env g ctx s with ⟨s1, c1, _ | v⟩
  · have hn : (bodySpec env g ctx s).2.2 = none := by rw [hb]
    rw [C09_gen_hook_only_on_panic env g ctx s hn]
    exact bodySpec_commits env g ctx s hn
  · cases hh : env.onPanicH s with
    | none =>
      rw [C09_gen_no_hook_propagates env g ctx s hh, hb] at h
      cases h
    | some hk =>
      rcases hr : env.onPanic s1 (c1.set_data (dataSet c1.data keyRecover (.pv v))) with ⟨s2, c2, _ | v'⟩
      · exact ⟨c2, by rw [C09_gen_recover env g ctx s hk s1 s2 c1 c2 v hh hb hr]⟩
      · rw [C09_gen_hook_panics env g ctx s hk s1 s2 c1 c2 v v' hh hb hr] at h
        cases h

/-- **Whenever `handleHTTPRequest` returns normally the response is committed**: the status line has been handed to the
    underlying writer (`Written()`), whatever the handlers and hooks did or did not write. -/
theorem C08_gen_dispatch_commits (env : HEnv σ ρ η (Gen.Ctx γ)) (g : Gen.Router) (ctx : Gen.Ctx γ) (s : σ)
    (h : (Gen.Router.handleHTTPRequest g ctx env s).2.2 = none) :
    Gen.RW.Written (Gen.Router.handleHTTPRequest g ctx env s).2.1.writer = true := by
  obtain ⟨c, hc⟩ := gen_handle_commits env g ctx s h
  rw [hc]
  exact (ensure_written c.writer).1

/-- **`handlers.PanicsHandler`** (pkg/handlers as generated): whatever the rest of the chain panics with is recovered — the
    middleware itself never panics —, `WriteHeader(500)` is called on `c.Resp` afterwards, and nothing else: in
    particular it does not call `Abort()` (the observation of DESIGN §7: the chain is not marked aborted); without a
    panic it does nothing after `Next()` -/
theorem C09_gen_panicsHandler (c : List GoRt.REv) (next : List GoRt.REv → List GoRt.REv × Option Panic) :
    Gen.PanicsHandler c next =
      match (next c).2 with
      | none => ((next c).1, none)
      | some _ => ((next c).1 ++ [GoRt.REv.wh 500], none) := by
  unfold Gen.PanicsHandler
  cases h : (next c).2 <;> simp [Id.run, pure, h]

end Rux
