import RuxModel.Tie.Path
import RuxModel.Props.C11
import RuxModel.Props.C11Tie
/-
  C11 on the code GENERATED from router.go `formatPath` and utils.go `simpleFmtPath` (Generated/Code.lean,
  regenerated by go/go2lean on every check run): the central theorems of Props/C11.lean transported along the
  ties of Tie/Path.lean.  In the generated definitions the string index accesses `path[0]`, `path[1]` are
  `Except Panic` operations, so `C11_gen_total` is the statement "the Go function cannot panic with an index
  out of range, whatever the string".
-/
namespace Rux

/-- normalisation (as generated from the Go source) never panics -/
theorem C11_gen_total (r : Gen.Router) (s : Bytes) : ∃ t, Gen.Router.formatPath r s = .ok t := by
  rw [Tie.tie_formatPath]; exact C11_total _ s

/-- the generated normaliser is the total function the route-table model (C01, C02, C06, C07, C13, C15) uses -/
theorem C11_gen_table_normaliser (r : Gen.Router) (s : Bytes) :
    Gen.Router.formatPath r s = .ok (fmtPath r.strictLastSlash s) := by
  rw [Tie.tie_formatPath]; exact C11_table_normaliser _ s

/-- registration (`simpleFmtPath` then `formatPath`) and lookup (`formatPath`) normalise identically -/
theorem C11_gen_agree (r : Gen.Router) (P : Bytes) :
    Gen.Router.formatPath r (Gen.simpleFmtPath P) = Gen.Router.formatPath r P := by
  rw [Tie.tie_formatPath, Tie.tie_formatPath, Tie.tie_simpleFmtPath]; exact C11_agree _ P

/-- idempotence: formatting a stored path again (group prefix + path are formatted twice) changes nothing -/
theorem C11_gen_idem (r : Gen.Router) (s t : Bytes) (h : Gen.Router.formatPath r s = .ok t) :
    Gen.Router.formatPath r t = .ok t := by
  rw [Tie.tie_formatPath] at *; exact C11_idem _ s t h

/-- surrounding white space is ignored -/
theorem C11_gen_ws (r : Gen.Router) (P : Bytes) :
    Gen.Router.formatPath r (Bytes.trimSpace P) = Gen.Router.formatPath r P := by
  rw [Tie.tie_formatPath, Tie.tie_formatPath]; exact C11_ws_trimSpace _ P

-- non-vacuity: the inputs of F3 / F16 on the generated code
example : Gen.Router.formatPath { (default : Gen.Router) with strictLastSlash := false } [0x20, 0x20] = .ok [0x2F] := by decide
example : Gen.Router.formatPath { (default : Gen.Router) with strictLastSlash := false } [0x2F, 0x61, 0x20, 0x2F] = .ok [0x2F, 0x61] := by decide

end Rux
