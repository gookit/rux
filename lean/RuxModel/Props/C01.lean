import RuxModel.Lemmas.Table
/-
  C01 — Route selection follows the documented pattern semantics.

  Statement clauses → theorems
    "dispatched to a route only if it allows the method and its pattern matches the whole
     normalised path"                                          C01_sound
    "'no route' only if no registered route does"              C01_complete
    "static beats dynamic; literal-first-segment patterns before the others; earliest wins"
                                                               C01_priority  (lookup = specSelect)
    pattern semantics ({name}, {name:regex}, optional tails, literal '.')
                                                               `LevelsLang` (Lemmas/Pattern.lean) is the
                                                               declarative reading; the matcher is sound and
                                                               complete for it: C01_matcher_sound / _complete
  Quantifiers: every list of route definitions accepted by registration (any number of routes), every
  option record, every request method without '/', every path byte string.
  What is NOT proved here: that `compileRoute` turns the *text* of a pattern into the intended levels
  (the translation mirrors the Go code step by step and is tied to it by the correspondence engine, which
  compares the produced regexp text, literal prefix, first-segment key and variable names verbatim with
  what rux computed; `routeOK` re-checks at registration the facts about that output the proofs rely on).
-/
namespace Rux

/-- `r` allows the method and its pattern reads the whole path -/
def Qualifies (r : RouteM) (m q : Bytes) : Prop :=
  m ∈ r.methods ∧ (if r.static then r.path = q else ∃ caps, LevelsLang r.info.levels caps q)

/-- the prioritised matcher only returns readings of the path as an instance of the pattern … -/
theorem C01_matcher_sound (ls : Levels) (q : Bytes) (caps : List Bytes) (h : matchPat ls q = some caps) :
    LevelsLang ls caps q := matchPat_some h

/-- … and finds one whenever one exists -/
theorem C01_matcher_complete (ls : Levels) (q : Bytes) :
    matchPat ls q = none ↔ ¬ ∃ caps, LevelsLang ls caps q := matchPat_none_iff ls q

/-- the table built by registering any accepted list of definitions answers exactly the specified
    selection, for every method without '/' and every path (normalised by `fmtPath` as lookup does) -/
theorem C01_priority (o : Opts) (defs : List RouteDef) (rt : RouterM) (rs : List RouteM)
    (hreg : registerAll (RouterM.new o) defs = some (rt, rs))
    (m p : Bytes) (hm : (0x2F : Nat) ∉ m) :
    lookupPure rt m (fmtPath o.strict p) = specSelect rs m (fmtPath o.strict p) := by
  obtain ⟨h1, _, h3⟩ := registerAll_build defs _ _ _ hreg
  rw [h1]
  exact lookupPure_eq_spec o rs h3 m _ hm (fmtPath_head _ _)

/-- soundness: whatever is selected is a registered route that allows the method and whose pattern
    matches the whole path; the parameters are the values of that reading -/
theorem C01_sound (rs : List RouteM) (m q : Bytes) (r : RouteM) (ps : Params)
    (h : specSelect rs m q = some (r, ps)) :
    r ∈ rs ∧ Qualifies r m q ∧
    (r.static = true → ps = []) ∧
    (r.static = false → ∃ caps, LevelsLang r.info.levels caps q ∧ ps = mkParams r.info.names caps) := by
  obtain ⟨hin, hm, ⟨hs, hp, rfl⟩ | ⟨hs, hmatch⟩⟩ := specSelect_some h
  · exact ⟨hin, ⟨hm, by rw [if_pos hs]; exact hp⟩, fun _ => rfl, fun hns => by rw [hs] at hns; cases hns⟩
  · obtain ⟨caps, hl, hps⟩ := routeMatch_some_levels hmatch
    refine ⟨hin, ⟨hm, ?_⟩, fun h' => ?_, fun _ => ⟨caps, hl, hps⟩⟩
    · rw [hs]; exact ⟨caps, hl⟩
    · rw [hs] at h'; cases h'

/-- completeness: "no route" is reported only if no registered route qualifies -/
theorem C01_complete (rs : List RouteM) (m q : Bytes) (h : specSelect rs m q = none) :
    ∀ r ∈ rs, ¬ Qualifies r m q := by
  intro r hr ⟨hm, hq⟩
  revert h
  fun_cases specSelect rs m q with
  | case3 hl hreg =>
    intro h
    cases hs : r.static with
    | true =>
      rw [hs, if_pos rfl] at hq
      have : r ∈ rs.filter (isStaticFor m q) := List.mem_filter.mpr ⟨hr, isStaticFor_iff.mpr ⟨hs, hm, hq⟩⟩
      rw [List.getLast?_eq_none_iff.mp hl] at this
      cases this
    | false =>
      rw [hs, if_neg Bool.false_ne_true] at hq
      have hsome : routeMatch r q ≠ none :=
        fun hn => (matchPat_none_iff _ _).mp (Option.map_eq_none_iff.mp hn) hq
      cases hf : r.info.first.isEmpty with
      | true => exact hsome (firstMatch_none h r (List.mem_filter.mpr ⟨hr, isIrregularFor_iff.mpr ⟨hs, hf, hm⟩⟩))
      | false => exact hsome (firstMatch_none hreg r (List.mem_filter.mpr ⟨hr, isRegularFor_iff.mpr ⟨hs, hf, hm⟩⟩))
  | _ => exact nofun

end Rux
