import RuxModel.Props.C02
/-
  C13 — Bad route definitions fail at registration; accepted ones never panic at lookup.

  Rejection clauses (the model's `prepare` / `compileRoute` return `.reject`, which is the code's panic):
    nil handler                                   C13_reject_nil_handler
    no method left after trimming                 C13_reject_no_methods
    a method that is not exactly one of the nine  C13_reject_unknown_method, C13_methods_exact
    capturing group inside a variable regex       C13_reject_capturing (first '(' not followed by '?'),
                                                  C13_reject_group_count (any other capturing group:
                                                  groups ≠ names, the check added for defect F5)
    optional part not at the end                  C13_reject_optional
    options changed after routes exist            (WithOptions: `counter > 0` — compared by the `total`
                                                  engine through the `reopt` op, no theorem)
    uncompilable pattern, handler-count limit     MustCompile panics by itself / C05_limit_registration
  Lookup is total for everything registration accepted:
    the two index expressions of the lookup path are in range
      `path[1:]` in `match`                        C13_path_nonempty   (the normalised path is never empty)
      `ps[r.matches[i]] = val`                     C13_caps_aligned    (one name per capture, always)
    and the model's lookup is a total function of (table, method, path) for ALL byte strings:
                                                   C13_lookup_total
  The model is total by construction, so C13_lookup_total alone would say little; the substance is in the
  two range theorems and in the `total` correspondence engine, whose oracle is "no panic of the real
  Match / ServeHTTP on any accepted table" over malformed definitions and degenerate requests.
-/
namespace Rux

theorem C13_reject_nil_handler (gv : GVars) (strict : Bool) (id : Nat) (name : Bytes) (ms : List Bytes) (p : Bytes)
    (methods : List Bytes) (hfm : formatMethods ms = some methods) :
    prepare gv strict id name ms p true = .reject .handler := by
  unfold prepare; rw [hfm]; rfl

theorem C13_reject_no_methods (gv : GVars) (strict : Bool) (id : Nat) (name : Bytes) (ms : List Bytes) (p : Bytes)
    (hfm : formatMethods ms = some []) :
    prepare gv strict id name ms p false = .reject .methods := by
  unfold prepare; rw [hfm]; rfl

theorem C13_reject_unknown_method (gv : GVars) (strict : Bool) (id : Nat) (name : Bytes) (ms : List Bytes) (p : Bytes)
    (methods : List Bytes) (hfm : formatMethods ms = some methods) (hne : methods ≠ [])
    (m : Bytes) (hm : m ∈ methods) (hbad : m ∉ anyMethodsB) :
    prepare gv strict id name ms p false = .reject .method := by
  have hany : (methods.any fun m => !anyMethodsB.contains m) = true :=
    List.any_eq_true.mpr ⟨m, hm, by simpa using hbad⟩
  unfold prepare
  rw [hfm]
  dsimp only
  rw [if_neg Bool.false_ne_true, if_neg (by simpa using hne), if_pos hany]

/-- exact membership: near misses of real method names are not methods -/
theorem C13_methods_exact :
    (Bytes.ofHexChars "44454c".toList = some [68, 69, 76]) ∧          -- "DEL"
    ([68, 69, 76] : Bytes) ∉ anyMethodsB ∧ ([71] : Bytes) ∉ anyMethodsB ∧
    ([71, 69, 84, 44, 80, 79, 83, 84] : Bytes) ∉ anyMethodsB ∧        -- "GET,POST"
    ([103, 101, 116] : Bytes) ∉ anyMethodsB ∧                          -- "get" (before upper-casing)
    anyMethodsB.length = 9 := by decide

theorem C13_reject_capturing (v : Bytes) (pos : Nat) (hpos : Bytes.indexByte v 0x28 = some pos)
    (hnext : v[pos + 1]? ≠ some 0x3F) : goodRegexString v = false := by
  unfold goodRegexString
  rw [hpos]
  dsimp only
  cases h : v[pos + 1]? with
  | none => rfl
  | some c => exact decide_eq_false fun e => hnext (h.trans (congrArg some e))

theorem C13_reject_group_count (regexStr start first spath : Bytes) (names : List Bytes)
    (hv : Bytes.validUTF8 regexStr = true) (hc : countGroups regexStr 0 ≠ names.length) :
    finish regexStr start first spath names = .reject .groups := by
  unfold finish; simp [hv, hc]

theorem C13_reject_optional (path : Bytes)
    (h : path.length - (Bytes.trimRightByte 0x5D path).length ≠ Bytes.countByte (Bytes.trimRightByte 0x5D path) 0x5B) :
    checkAndParseOptional path = none := by
  unfold checkAndParseOptional; simp [h]

/-- `path[1:]` is always in range: the path every lookup works on is never empty -/
theorem C13_path_nonempty (strict : Bool) (p : Bytes) : fmtPath strict p ≠ [] :=
  fun h => nomatch h ▸ fmtPath_head strict p

/-- `ps[r.matches[i]] = val` is always in range: a route that registration accepted has exactly one
    variable name per capture of every match -/
theorem C13_caps_aligned (r : RouteM) (hok : routeOK r.info = true) (q : Bytes) (caps : List Bytes)
    (h : matchPat r.info.levels q = some caps) : caps.length = r.info.names.length :=
  (C02_caps_count (matchPat_some h)).trans (routeOK_names hok).symm

/-- every route that `prepare` accepts satisfies that alignment (so it holds for every registered table) -/
theorem C13_accepted_aligned (gv : GVars) (strict : Bool) (id : Nat) (name : Bytes) (ms : List Bytes) (p : Bytes) (nh : Bool)
    (route : RouteM) (h : prepare gv strict id name ms p nh = .ok route) (hs : route.static = false) :
    routeOK route.info = true := (prepare_accepts h).ok hs

/-- the lookup is defined for every table, every option record, every method string and every path
    string (empty, white-space only, non-UTF-8 included) -/
theorem C13_lookup_total (rt : RouterM) (m p : Bytes) : ∃ res, quickMatch rt m p = res := ⟨_, rfl⟩

/-- non-vacuity of the normaliser on degenerate inputs -/
example : fmtPath false [] = [0x2F] ∧ fmtPath false [0x20, 0x20] = [0x2F] ∧ fmtPath true [0x09] = [0x2F] := by
  decide

end Rux
